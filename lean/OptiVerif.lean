-- GENERATED by tools/gen_lean_index.py
import OptiVerif.Gen.BerFormulas
import OptiVerif.Gen.Container
import OptiVerif.Gen.DacGauss
import OptiVerif.Gen.DacLimits
import OptiVerif.Gen.Eye
import OptiVerif.Gen.Fbg
import OptiVerif.Gen.FiberConst
import OptiVerif.Gen.Gv
import OptiVerif.Gen.GvWriters
import OptiVerif.Gen.OptDev
import OptiVerif.Gen.PdTable
import OptiVerif.Gen.PpgLimits
import OptiVerif.Gen.Ppm
import OptiVerif.Gen.Prbs
import OptiVerif.Gen.Quant
import OptiVerif.Gen.SiLadder
import OptiVerif.Lemmas.Argmax
import OptiVerif.Lemmas.Ber
import OptiVerif.Lemmas.BerAlg
import OptiVerif.Lemmas.BerConv
import OptiVerif.Lemmas.BerSoft
import OptiVerif.Lemmas.BinSeq
import OptiVerif.Lemmas.BinSeqCmp
import OptiVerif.Lemmas.BinSeqStrBits
import OptiVerif.Lemmas.BinSeqStrErr
import OptiVerif.Lemmas.Blocks
import OptiVerif.Lemmas.CmpReal
import OptiVerif.Lemmas.Container
import OptiVerif.Lemmas.ContainerAlg
import OptiVerif.Lemmas.ContainerCtor
import OptiVerif.Lemmas.ContainerFourier
import OptiVerif.Lemmas.ContainerOps
import OptiVerif.Lemmas.ContainerRows
import OptiVerif.Lemmas.ContainerSlice
import OptiVerif.Lemmas.ConvGauss
import OptiVerif.Lemmas.ConvReal
import OptiVerif.Lemmas.Dac
import OptiVerif.Lemmas.DacGauss
import OptiVerif.Lemmas.Dec2bin
import OptiVerif.Lemmas.Edfa
import OptiVerif.Lemmas.Eye
import OptiVerif.Lemmas.Fbg
import OptiVerif.Lemmas.FbgOde
import OptiVerif.Lemmas.Fiber
import OptiVerif.Lemmas.FiberNL
import OptiVerif.Lemmas.FiberNLPol
import OptiVerif.Lemmas.FiberNLTerm
import OptiVerif.Lemmas.Filter
import OptiVerif.Lemmas.FilterResp
import OptiVerif.Lemmas.Fourier
import OptiVerif.Lemmas.FourierLinear
import OptiVerif.Lemmas.GaussQ
import OptiVerif.Lemmas.Guard
import OptiVerif.Lemmas.Gv
import OptiVerif.Lemmas.IteOrder
import OptiVerif.Lemmas.Link
import OptiVerif.Lemmas.Modulators
import OptiVerif.Lemmas.ModulatorsFilter
import OptiVerif.Lemmas.ModulatorsSpectrum
import OptiVerif.Lemmas.NumList
import OptiVerif.Lemmas.NumReal
import OptiVerif.Lemmas.OptField
import OptiVerif.Lemmas.Pd
import OptiVerif.Lemmas.PdCore
import OptiVerif.Lemmas.PdFull
import OptiVerif.Lemmas.PdInv
import OptiVerif.Lemmas.Ppg
import OptiVerif.Lemmas.PpgData
import OptiVerif.Lemmas.PpgEmit
import OptiVerif.Lemmas.PpgKron
import OptiVerif.Lemmas.PpgSync
import OptiVerif.Lemmas.PpgSyncNoise
import OptiVerif.Lemmas.PpmCodec
import OptiVerif.Lemmas.PpmDecision
import OptiVerif.Lemmas.PpmList
import OptiVerif.Lemmas.PrbsCertified
import OptiVerif.Lemmas.PrbsChecker
import OptiVerif.Lemmas.PrbsLinear
import OptiVerif.Lemmas.PrbsPeriod
import OptiVerif.Lemmas.PrbsRun
import OptiVerif.Lemmas.PySlice
import OptiVerif.Lemmas.QSpec
import OptiVerif.Lemmas.Quant
import OptiVerif.Lemmas.Round
import OptiVerif.Lemmas.Shift
import OptiVerif.Lemmas.Si
import OptiVerif.Lemmas.StrArray
import OptiVerif.Model.Ber
import OptiVerif.Model.BinSeq
import OptiVerif.Model.BinSeqStr
import OptiVerif.Model.Container
import OptiVerif.Model.Conv
import OptiVerif.Model.Dac
import OptiVerif.Model.DacGauss
import OptiVerif.Model.Dec2bin
import OptiVerif.Model.Edfa
import OptiVerif.Model.Eye
import OptiVerif.Model.Fbg
import OptiVerif.Model.Fiber
import OptiVerif.Model.FiberNL
import OptiVerif.Model.Filter
import OptiVerif.Model.Fourier
import OptiVerif.Model.Gv
import OptiVerif.Model.Link
import OptiVerif.Model.Modulators
import OptiVerif.Model.Num
import OptiVerif.Model.NumList
import OptiVerif.Model.Pd
import OptiVerif.Model.PdFull
import OptiVerif.Model.Ppg
import OptiVerif.Model.PpgSync
import OptiVerif.Model.Ppm
import OptiVerif.Model.Prbs
import OptiVerif.Model.PrbsCert
import OptiVerif.Model.QWire
import OptiVerif.Model.Quant
import OptiVerif.Model.RatIO
import OptiVerif.Model.Si
import OptiVerif.Model.StrArray
import OptiVerif.Model.Wire
import OptiVerif.Props.C01
import OptiVerif.Props.C02
import OptiVerif.Props.C03
import OptiVerif.Props.C04
import OptiVerif.Props.C05
import OptiVerif.Props.C06
import OptiVerif.Props.C07
import OptiVerif.Props.C08
import OptiVerif.Props.C09
import OptiVerif.Props.C10
import OptiVerif.Props.C11
import OptiVerif.Props.C12
import OptiVerif.Props.C13
import OptiVerif.Props.C14
import OptiVerif.Props.C15
import OptiVerif.Props.C16
import OptiVerif.Props.C17
import OptiVerif.Props.C18
import OptiVerif.Props.C19
import OptiVerif.Props.C20
