/-
The documented LFSR step, GF(2) matrices as lists of column bit-masks, trial division, and the matrix-inverse form of
the maximal-period certificate (`certOK`, DESIGN.md §5 C04).  Core Lean only.  The certificates the theorems evaluate are
`cycleOK` and `lucasOK` (Lemmas/PrbsChecker.lean, DESIGN.md §0.1), which use `step`, `applyM`, `colsFrom`, `stepM`, `isPrimeB` from here.
-/
namespace OptiVerif.PrbsCert

/-- the documented step: shift left, feed back bit (n-1) xor bit (t-1), keep n bits -/
def step (n t s : Nat) : Nat :=
  ((s <<< 1) ||| (((s >>> (n-1)) ^^^ (s >>> (t-1))) &&& 1)) &&& (2^n - 1)

abbrev Mat := List Nat

/-- matrix (columns) times vector (bit mask) over GF(2) -/
def applyM : Mat → Nat → Nat
  | [], _ => 0
  | c :: cs, v => (if v.testBit 0 then c else 0) ^^^ applyM cs (v >>> 1)

def mulM (a b : Mat) : Mat := b.map (applyM a)

/-- columns f(2^k), f(2^(k+1)), …, n of them -/
def colsFrom (f : Nat → Nat) : Nat → Nat → Mat
  | _, 0 => []
  | k, n+1 => f (2^k) :: colsFrom f (k+1) n

def idM (n : Nat) : Mat := colsFrom id 0 n
def stepM (n t : Nat) : Mat := colsFrom (step n t) 0 n

/-- `m^k` by repeated squaring; `fuel` bounds the recursion (k < 2^fuel suffices) -/
def powM (n : Nat) (m : Mat) : Nat → Nat → Mat
  | 0, _ => idM n
  | f+1, k => if k = 0 then idM n else
      let h := powM n m f (k / 2)
      let h2 := mulM h h
      if k % 2 = 1 then mulM h2 m else h2

/-- `m + I` -/
def addI (n : Nat) (m : Mat) : Mat := List.zipWith (· ^^^ ·) m (idM n)

/-- Gauss–Jordan elimination on rows `(row, tag)`; only ever *evaluated*: its result is checked by a
    product, never trusted -/
def gjLoop (n : Nat) : Nat → Nat → List (Nat × Nat) → List (Nat × Nat)
  | 0, _, rows => rows
  | f+1, col, rows =>
    if col ≥ n then rows else
    match ((rows.zipIdx).find? (fun (r, i) => i ≥ col && r.1.testBit col)) with
    | none => rows
    | some (p, pi) =>
      let rows := rows.set pi (rows.getD col (0,0)) |>.set col p
      let rows := (rows.zipIdx).map (fun (r, i) => if i ≠ col && r.1.testBit col then (r.1 ^^^ p.1, r.2 ^^^ p.2) else r)
      gjLoop n f (col+1) rows

/-- transpose of a column-mask matrix -/
def transposeM (n : Nat) (a : Mat) : Mat :=
  (List.range n).map (fun i => (a.zipIdx).foldl (fun acc (c, j) => if c.testBit i then acc ||| 2^j else acc) 0)

/-- candidate inverse (left inverse is what the certificate checks) -/
def invM (n : Nat) (a : Mat) : Mat :=
  -- eliminate on the rows of `a` (= columns of the transpose), tags record the row operations
  let rows := (transposeM n a).zipIdx.map (fun (c, j) => (c, 2^j))
  transposeM n ((gjLoop n n 0 rows).map (·.2))

/-- the certificate: `M^N = I` and `M^(N/q) + I` has a left inverse for every `q` in `qs` -/
def certOK (n t : Nat) (qs : List Nat) : Bool :=
  let N := 2^n - 1
  let M := stepM n t
  (powM n M (n+1) N == idM n) &&
  qs.all (fun q =>
    let A := addI n (powM n M (n+1) (N / q))
    mulM (invM n A) A == idM n)

/-- trial division, fuel-recursive -/
def noDivFrom (n k : Nat) : Nat → Bool
  | 0 => true
  | fuel+1 => if k * k > n then true else if n % k == 0 then false else noDivFrom n (k+1) fuel

def isPrimeB (n : Nat) : Bool := decide (2 ≤ n) && noDivFrom n 2 n.sqrt

end OptiVerif.PrbsCert
