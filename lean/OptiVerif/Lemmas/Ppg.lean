/-
Helper lemmas for C20 (PPG3204 command emission).  In every test-and-clip of the driver (values, channels) the test only
decides about the warning: what is sent is the clip (`clampAll_fst`, `checkChannels_fst`).
-/
import Mathlib.Tactic.Linarith
import OptiVerif.Model.Ppg

namespace OptiVerif.Ppg
open OptiVerif.Gen.PpgLimits

def ChOk (ch : Int) : Prop := 1 ≤ ch ∧ ch ≤ 4

/-- the decimal digit count `k` of the IEEE-488.2 header `#<k><n>`: one digit `1…9`, and `n` has exactly `k` digits -/
def HeaderOK (k n : Nat) : Prop := 1 ≤ k ∧ k ≤ 9 ∧ n < 10 ^ k ∧ (k = 1 ∨ 10 ^ (k - 1) ≤ n)

/-- "addresses a channel in 1..4 and carries a value inside the instrument's documented limits"; the address of a data
    block or query is not looked at -/
def InRange : Command → Prop
  | .set .pattLen ch v => ChOk ch ∧ 2 ≤ v ∧ v ≤ 2 ^ 21
  | .set .prbsOrder ch v => ChOk ch ∧ (v = 7 ∨ v = 9 ∨ v = 11 ∨ v = 15 ∨ v = 23 ∨ v = 31)
  | .set .bitsShift ch _ => ChOk ch
  | .set .skew ch v => ChOk ch ∧ -(25 / 10 ^ 12) ≤ v ∧ v ≤ 25 / 10 ^ 12
  | .set .volt ch v => ChOk ch ∧ 3 / 10 ≤ v ∧ v ≤ 2
  | .set .offsNeg ch v => ChOk ch ∧ -2 ≤ v ∧ v < 0
  | .set .offsPos ch v => ChOk ch ∧ 0 ≤ v ∧ v ≤ 3
  | .freq v => 15 * 10 ^ 8 ≤ v ∧ v ≤ 32 * 10 ^ 9
  | .mode ch _ => ChOk ch
  | .outp ch _ => ChOk ch
  | .get _ ch => ChOk ch
  | .data ch _ n k bits => ChOk ch ∧ n ≤ 1024 ∧ bits.length = n ∧ HeaderOK k n
  | .dataQ ch _ n => ChOk ch ∧ n ≤ 1024
  | .freqQ => True
  | .rst => True

/-- requests whose arguments have the documented Python types (the others raise `ValueError`/`TypeError`
    before any command is emitted) -/
def WellTyped : Request → Prop
  | .pattLen (.float _) _ => False
  | .prbsOrder (.float _) _ => False
  | .freq (.list _) => False
  | .mode .other _ => False
  | .setData (.rows rs) _ _ => ∃ n, ∀ r ∈ rs, r.length = n
  | _ => True

/-- the grid of `%.1f` -/
def Tenths (g : Rat) : Prop := ∃ k : Int, g = k / 10

/-- the grid of `%.5e` on finite values: at most six significant decimal digits -/
def Sig6 (g : Rat) : Prop := ∃ (m : Int) (e : Int), m.natAbs < 10 ^ 6 ∧ g = m * (10 : Rat) ^ e

theorem gen_channels : CHANNELS = 4 := rfl
theorem gen_chunk : MAX_CHUNK_LEN = 1024 := rfl
theorem gen_memory : MAX_MEMORY_LEN = 2 ^ 21 := rfl
theorem gen_orders : PRBS_ORDERS = [7, 9, 11, 15, 23, 31] := rfl

/-- `clipI` and `clipR` transcribe the same `np.clip`: both are `min hi (max v lo)` -/
theorem clipI_eq (lo hi v : Int) : clipI lo hi v = min hi (max v lo) := by rw [min_def_lt, max_def_lt]; rfl
theorem clipR_eq (lo hi v : Rat) : clipR lo hi v = min hi (max v lo) := by rw [min_def_lt, max_def_lt]; rfl

theorem clipI_range {lo hi : Int} (h : lo ≤ hi) (v : Int) : lo ≤ clipI lo hi v ∧ clipI lo hi v ≤ hi := by
  rw [clipI_eq]
  exact ⟨le_min h (le_max_right _ _), min_le_left _ _⟩

theorem clipI_id {lo hi v : Int} (h1 : lo ≤ v) (h2 : v ≤ hi) : clipI lo hi v = v := by
  rw [clipI_eq, max_eq_left h1, min_eq_right h2]

/-- `if v < lo or v > hi: v = clip(v, lo, hi)` is `clip(v, lo, hi)` -/
theorem ite_clipI (lo hi v : Int) :
    (if (decide (v < lo) || decide (hi < v)) = true then clipI lo hi v else v) = clipI lo hi v := by
  split_ifs with h
  · rfl
  · simp only [Bool.or_eq_true, decide_eq_true_eq, not_or, not_lt] at h
    exact (clipI_id h.1 h.2).symm

theorem clipR_range {lo hi : Rat} (h : lo ≤ hi) (v : Rat) : lo ≤ clipR lo hi v ∧ clipR lo hi v ≤ hi := by
  rw [clipR_eq]
  exact ⟨le_min h (le_max_right _ _), min_le_left _ _⟩

theorem clipR_id {lo hi v : Rat} (h1 : lo ≤ v) (h2 : v ≤ hi) : clipR lo hi v = v := by
  rw [clipR_eq, max_eq_left h1, min_eq_right h2]

theorem clipR_of_lt {lo hi v : Rat} (hle : lo ≤ hi) (h : v < lo) : clipR lo hi v = lo := by
  rw [clipR_eq, max_eq_right h.le, min_eq_right hle]

theorem clipR_of_gt {lo hi v : Rat} (h : hi < v) : clipR lo hi v = hi := by
  rw [clipR_eq, min_eq_left (h.le.trans (le_max_left _ _))]

theorem clampAll_test (lo hi : Rat) (vs : List Rat) :
    (vs.any (· < lo) || vs.any (hi < ·)) = true ↔ ∃ v ∈ vs, v < lo ∨ hi < v := by
  simp only [Bool.or_eq_true, List.any_eq_true, decide_eq_true_eq, ← exists_or, ← and_or_left]

theorem clampAll_id (lo hi : Rat) (vs : List Rat) (h : ∀ v ∈ vs, lo ≤ v ∧ v ≤ hi) :
    clampAll (lo, hi) (lo, hi) vs = (vs, false) := by
  unfold clampAll
  refine if_neg fun hc => ?_
  obtain ⟨v, hv, hlt | hlt⟩ := (clampAll_test lo hi vs).mp hc
  · exact not_lt.mpr (h v hv).1 hlt
  · exact not_lt.mpr (h v hv).2 hlt

/-- `if (x < lo).any() or (x > hi).any(): x = x.clip(lo, hi)` is `x.clip(lo, hi)` -/
theorem clampAll_fst (lo hi : Rat) (vs : List Rat) : (clampAll (lo, hi) (lo, hi) vs).1 = vs.map (clipR lo hi) := by
  unfold clampAll
  split_ifs with hc
  · rfl
  · rw [clampAll_test] at hc
    exact (List.map_id' vs).symm.trans (List.map_congr_left fun v hv =>
      (clipR_id (not_lt.mp fun h => hc ⟨v, hv, Or.inl h⟩) (not_lt.mp fun h => hc ⟨v, hv, Or.inr h⟩)).symm)

/-- `_check_channels` with the translated literals written out -/
theorem checkChannels_some (cs : List Int) : checkChannels (some cs) =
    if (cs.any (· < 1) || cs.any ((4 : Int) < ·) || decide (4 < cs.length)) = true then
      ((cs.map (clipI 1 4)).take 4, true) else (cs, false) := rfl

theorem checkChannels_none : checkChannels none = ([1, 2, 3, 4], false) := rfl

/-- for a given selection `_check_channels` always returns `channels.clip(1, 4)[:4]` -/
theorem checkChannels_fst (cs : List Int) : (checkChannels (some cs)).1 = (cs.map (clipI 1 4)).take 4 := by
  rw [checkChannels_some]
  split_ifs with h
  · rfl
  · simp only [Bool.or_eq_true, List.any_eq_true, decide_eq_true_eq, not_or, not_exists, not_and, not_lt] at h
    rw [List.take_of_length_le (by rw [List.length_map]; exact h.2)]
    exact (List.map_id' cs).symm.trans (List.map_congr_left fun c hc => (clipI_id (h.1.1 c hc) (h.1.2 c hc)).symm)

theorem checkChannels_mem (chs : Chs) (c : Int) (hc : c ∈ (checkChannels chs).1) : ChOk c := by
  cases chs with
  | none =>
    rw [checkChannels_none] at hc
    simp only [List.mem_cons, List.not_mem_nil, or_false] at hc
    unfold ChOk
    omega
  | some cs =>
    rw [checkChannels_fst] at hc
    obtain ⟨x, _, rfl⟩ := List.mem_map.mp (List.mem_of_mem_take hc)
    exact clipI_range (lo := 1) (hi := 4) (by decide) x

theorem checkChannels_length (chs : Chs) : (checkChannels chs).1.length ≤ 4 := by
  cases chs with
  | none => rw [checkChannels_none]; decide
  | some cs => rw [checkChannels_fst]; exact List.length_take_le _ _

theorem checkChannels_id (cs : List Int) (h : ∀ c ∈ cs, ChOk c) (hl : cs.length ≤ 4) :
    checkChannels (some cs) = (cs, false) := by
  rw [checkChannels_some, if_neg]
  simp only [Bool.or_eq_true, List.any_eq_true, decide_eq_true_eq, not_or, not_exists, not_and]
  refine ⟨⟨fun c hc => ?_, fun c hc => ?_⟩, by omega⟩
  · have := (h c hc).1; omega
  · have := (h c hc).2; omega

theorem mem_zipWith {α β γ} {f : α → β → γ} {as : List α} {bs : List β} {c : γ} (h : c ∈ List.zipWith f as bs) :
    ∃ a ∈ as, ∃ b ∈ bs, c = f a b := by
  rw [← List.map_uncurry_zip_eq_zipWith] at h
  obtain ⟨⟨a, b⟩, hab, rfl⟩ := List.mem_map.mp h
  exact ⟨a, (List.of_mem_zip hab).1, b, (List.of_mem_zip hab).2, rfl⟩

theorem nearestFrom_spec (a : Int) : ∀ (xs : List Int) (b : Int),
    nearestFrom a b xs ∈ b :: xs ∧ ∀ y ∈ b :: xs, (nearestFrom a b xs - a).natAbs ≤ (y - a).natAbs
  | [], b => ⟨List.mem_cons_self, fun y hy => by rw [List.mem_singleton.mp hy]; exact le_refl _⟩
  | x :: xs, b => by
    unfold nearestFrom
    obtain ⟨h1, h2⟩ := nearestFrom_spec a xs (if (x - a).natAbs < (b - a).natAbs then x else b)
    split_ifs at h1 h2 ⊢ with hlt
    · refine ⟨List.mem_cons_of_mem _ h1, fun y hy => ?_⟩
      rcases List.mem_cons.mp hy with rfl | hy
      · have := h2 x List.mem_cons_self; omega
      · exact h2 y hy
    · refine ⟨?_, fun y hy => ?_⟩
      · rcases List.mem_cons.mp h1 with h | h
        · rw [h]; exact List.mem_cons_self
        · exact List.mem_cons_of_mem _ (List.mem_cons_of_mem _ h)
      · rcases List.mem_cons.mp hy with rfl | hy
        · exact h2 y List.mem_cons_self
        · rcases List.mem_cons.mp hy with rfl | hy
          · have := h2 b List.mem_cons_self; omega
          · exact h2 y (List.mem_cons_of_mem _ hy)

theorem nearest_orders (a : Int) : ∃ o, nearest PRBS_ORDERS a = .ok o ∧ o ∈ PRBS_ORDERS ∧
    ∀ y ∈ PRBS_ORDERS, (o - a).natAbs ≤ (y - a).natAbs :=
  ⟨_, rfl, nearestFrom_spec a _ 7⟩

theorem orders_cast {k : Int} (hk : k ∈ PRBS_ORDERS) :
    (k : Rat) = 7 ∨ (k : Rat) = 9 ∨ (k : Rat) = 11 ∨ (k : Rat) = 15 ∨ (k : Rat) = 23 ∨ (k : Rat) = 31 := by
  simp only [gen_orders, List.mem_cons, List.not_mem_nil, or_false] at hk
  exact_mod_cast hk

theorem orderFor_ok (ord : Rat) : ∃ o w, orderFor ord = .ok (o, w) ∧
    (o = 7 ∨ o = 9 ∨ o = 11 ∨ o = 15 ∨ o = 23 ∨ o = 31) := by
  unfold orderFor
  split_ifs with h
  · obtain ⟨k, hk, e⟩ := List.any_eq_true.mp h
    exact ⟨ord, false, rfl, beq_iff_eq.mp e ▸ orders_cast hk⟩
  · obtain ⟨o, ho, hm, _⟩ := nearest_orders (truncZ ord)
    exact ⟨o, true, by rw [ho]; rfl, orders_cast hm⟩

theorem orderCmds_ok : ∀ (cs : List Int) (vs : List Rat), (∀ c ∈ cs, ChOk c) →
    ∃ cmds w, orderCmds cs vs = .ok (cmds, w) ∧ ∀ c ∈ cmds, InRange c
  | [], _, _ => ⟨[], false, by simp [orderCmds, pure, Except.pure], by simp⟩
  | _ :: _, [], _ => ⟨[], false, by simp [orderCmds, pure, Except.pure], by simp⟩
  | ch :: cs, v :: vs, h => by
    obtain ⟨o, w, ho, hr⟩ := orderFor_ok v
    obtain ⟨cmds, w', hc, hr'⟩ := orderCmds_ok cs vs (fun c hc => h c (List.mem_cons_of_mem _ hc))
    refine ⟨Command.set .prbsOrder ch o :: cmds, w || w', ?_, ?_⟩
    · simp [orderCmds, ho, hc, bind, Except.bind, pure, Except.pure]
    · intro c hc'
      rcases List.mem_cons.mp hc' with rfl | hc'
      · exact ⟨h ch List.mem_cons_self, hr⟩
      · exact hr' c hc'

/-- `{v:.1f}` rounds to the nearest multiple of 1/10, `{v:.5e}` to the nearest 6-significant-digit decimal: both are "a
    nearest point of a grid `G`" -/

theorem nearest_in_range {G : Rat → Prop} {lo hi x r : Rat} (hlo : G lo) (hhi : G hi)
    (hnear : ∀ g, G g → |r - x| ≤ |g - x|) (h1 : lo ≤ x) (h2 : x ≤ hi) : lo ≤ r ∧ r ≤ hi := by
  have hl := hnear lo hlo
  have hh := hnear hi hhi
  rw [abs_sub_comm lo x, abs_of_nonneg (sub_nonneg.mpr h1)] at hl
  rw [abs_of_nonneg (sub_nonneg.mpr h2)] at hh
  constructor
  · have := (abs_le.mp hl).1
    linarith
  · have := (abs_le.mp hh).2
    linarith

end OptiVerif.Ppg
