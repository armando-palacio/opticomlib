/-
Lemmas about the generic list utilities of `Model/NumList.lean` at ℝ.  The model's `sum` is `List.sum` (`sum_eq`), its
`argmin` the position of the first minimum (`IsFirstMin`), its `linspace` a closed form for every `n` (`linspace_eq_map`).
-/
import OptiVerif.Model.NumList
import OptiVerif.Lemmas.CmpReal
import OptiVerif.Lemmas.NumReal
import OptiVerif.Lemmas.IteOrder
import Mathlib.Data.List.GetD

namespace OptiVerif.NumList

@[simp] theorem zero_real : (zero : ℝ) = 0 := by simp [zero]
@[simp] theorem one_real : (one : ℝ) = 1 := by simp [one]
@[simp] theorem two_real : (two : ℝ) = 2 := by simp [two]

theorem absR_real (x : ℝ) : absR x = |x| := by
  simp only [absR, Cmp.lt_real, zero_real, ite_neg_eq_abs]

theorem le_real (a b : ℝ) : (le a b = true) ↔ a ≤ b := by simp [le]

@[simp] theorem sum_cons (x : ℝ) (xs : List ℝ) : sum (x :: xs) = x + sum xs := rfl

theorem sum_eq (xs : List ℝ) : sum xs = xs.sum := by
  induction xs with
  | nil => simp [sum]
  | cons x xs ih => simp [ih]

theorem sum_map_affine (α β : ℝ) (xs : List ℝ) :
    sum (xs.map (fun x => α * x + β)) = α * sum xs + xs.length * β := by
  rw [sum_eq, sum_eq, List.sum_map_add, List.sum_map_mul_left, List.map_id', List.map_const', List.sum_replicate,
    nsmul_eq_mul]

theorem sum_sq_shift (c : ℝ) (xs : List ℝ) :
    sum (xs.map (fun x => (x - c) * (x - c))) = sum (xs.map (fun x => x * x)) - 2 * c * sum xs + xs.length * (c * c) := by
  have e : (fun x : ℝ => (x - c) * (x - c)) = fun x => x * x + ((-2 * c) * x + c * c) := by funext x; ring
  rw [e, sum_eq, sum_eq, sum_eq, List.sum_map_add, List.sum_map_add, List.sum_map_mul_left, List.map_id',
    List.map_const', List.sum_replicate, nsmul_eq_mul]
  ring

theorem length_pos_real {xs : List ℝ} (hne : xs ≠ []) : (0 : ℝ) < (xs.length : ℝ) := by
  exact_mod_cast List.length_pos_iff.mpr hne

theorem mean_eq (xs : List ℝ) : mean xs = xs.sum / xs.length := by rw [mean, sum_eq]

theorem mean_affine (α β : ℝ) (xs : List ℝ) (hne : xs ≠ []) :
    mean (xs.map (fun x => α * x + β)) = α * mean xs + β := by
  rw [mean, sum_map_affine, List.length_map, add_div, mul_div_assoc, mul_div_cancel_left₀ β (length_pos_real hne).ne', mean]

theorem var_affine (α β : ℝ) (xs : List ℝ) (hne : xs ≠ []) :
    var (xs.map (fun x => α * x + β)) = α * α * var xs := by
  -- the squared deviations scale by α², so `mean_affine` applies again, with slope α·α and offset 0
  have e : (xs.map (fun x => α * x + β)).map (fun y => (y - (α * mean xs + β)) * (y - (α * mean xs + β)))
      = (xs.map (fun x => (x - mean xs) * (x - mean xs))).map (fun z => α * α * z + 0) := by
    rw [List.map_map, List.map_map]
    exact List.map_congr_left fun x _ => by simp only [Function.comp]; ring
  rw [var, mean_affine α β xs hne, e, mean_affine (α * α) 0 _ (by simpa using hne), add_zero, var]

theorem std_affine (α β : ℝ) (hα : 0 ≤ α) (xs : List ℝ) (hne : xs ≠ []) :
    std (xs.map (fun x => α * x + β)) = α * std xs := by
  simp only [std, Transc.sqrt_real, var_affine α β xs hne]
  rw [Real.sqrt_mul (mul_self_nonneg α), Real.sqrt_mul_self hα]

theorem var_nonneg (xs : List ℝ) : 0 ≤ var xs := by
  rw [var, mean_eq]
  refine div_nonneg (List.sum_nonneg fun y hy => ?_) (Nat.cast_nonneg _)
  obtain ⟨x, -, rfl⟩ := List.mem_map.mp hy
  exact mul_self_nonneg _

theorem mean_le (c : ℝ) (xs : List ℝ) (hne : xs ≠ []) (h : ∀ x ∈ xs, x ≤ c) : mean xs ≤ c := by
  rw [mean_eq, div_le_iff₀ (length_pos_real hne), mul_comm, ← nsmul_eq_mul]
  exact List.sum_le_card_nsmul _ _ h

theorem le_mean (c : ℝ) (xs : List ℝ) (hne : xs ≠ []) (h : ∀ x ∈ xs, c ≤ x) : c ≤ mean xs := by
  rw [mean_eq, le_div_iff₀ (length_pos_real hne), mul_comm, ← nsmul_eq_mul]
  exact List.card_nsmul_le_sum _ _ h

theorem mean_lt (c : ℝ) (xs : List ℝ) (hne : xs ≠ []) (h : ∀ x ∈ xs, x < c) : mean xs < c := by
  rw [mean_eq, div_lt_iff₀ (length_pos_real hne), mul_comm]
  simpa using List.sum_lt_sum_of_ne_nil hne id (fun _ => c) h

theorem mean_gt (c : ℝ) (xs : List ℝ) (hne : xs ≠ []) (h : ∀ x ∈ xs, c < x) : c < mean xs := by
  rw [mean_eq, lt_div_iff₀ (length_pos_real hne), mul_comm]
  simpa using List.sum_lt_sum_of_ne_nil hne (fun _ => c) id h

theorem var_add_sq (l : ℝ) (xs : List ℝ) (hne : xs ≠ []) :
    var xs + (mean xs - l) * (mean xs - l) = mean (xs.map (fun x => (x - l) * (x - l))) := by
  have hn := (length_pos_real hne).ne'
  simp only [var, mean, List.length_map, sum_sq_shift]
  field_simp
  ring

section FirstMin
variable {α β : Type} [LinearOrder α] [LinearOrder β]

/-- `i` is the position of the first minimum of `l`: what `np.argmin` returns -/
structure IsFirstMin (l : List α) (i : ℕ) : Prop where
  lt : i < l.length
  le : ∀ x ∈ l, l[i] ≤ x
  first : ∀ j (hj : j < i), l[i] < l[j]

theorem IsFirstMin.cons_succ {x : α} {xs : List α} {i : ℕ} (h : IsFirstMin xs i) (hx : xs[i]'h.lt < x) :
    IsFirstMin (x :: xs) (i + 1) :=
  ⟨Nat.succ_lt_succ h.lt, List.forall_mem_cons.mpr ⟨hx.le, h.le⟩, fun j hj => by
    cases j with
    | zero => exact hx
    | succ j => exact h.first j (Nat.lt_of_succ_lt_succ hj)⟩

theorem IsFirstMin.cons_zero {x : α} {xs : List α} (h : ∀ y ∈ xs, x ≤ y) : IsFirstMin (x :: xs) 0 :=
  ⟨Nat.succ_pos _, List.forall_mem_cons.mpr ⟨le_rfl, h⟩, fun _ hj => absurd hj (Nat.not_lt_zero _)⟩

theorem IsFirstMin.eq {l : List α} {i k : ℕ} (h : IsFirstMin l i) (h' : IsFirstMin l k) : i = k := by
  rcases Nat.lt_trichotomy i k with hik | hik | hik
  · exact absurd (h'.first i hik) (h.le _ (List.getElem_mem _)).not_gt
  · exact hik
  · exact absurd (h.first k hik) (h'.le _ (List.getElem_mem _)).not_gt

theorem IsFirstMin.map {f : α → β} (hf : StrictMono f) {l : List α} {i : ℕ} (h : IsFirstMin l i) :
    IsFirstMin (l.map f) i := by
  refine ⟨by rw [List.length_map]; exact h.lt, ?_, fun j hj => ?_⟩
  · exact List.forall_mem_map.mpr fun x hx => by rw [List.getElem_map]; exact hf.monotone (h.le x hx)
  · rw [List.getElem_map, List.getElem_map]; exact hf (h.first j hj)

end FirstMin

theorem argminPair_spec : ∀ (l : List ℝ), l ≠ [] → ∃ i, ∃ h : IsFirstMin l i, argminPair l = some (i, l[i]'h.lt)
  | [], hne => absurd rfl hne
  | [x], _ => ⟨0, .cons_zero (fun _ hy => absurd hy List.not_mem_nil), rfl⟩
  | x :: y :: ys, _ => by
    obtain ⟨i, h, e⟩ := argminPair_spec (y :: ys) (List.cons_ne_nil _ _)
    rw [argminPair, e]
    by_cases hlt : (y :: ys)[i]'h.lt < x
    · exact ⟨i + 1, h.cons_succ hlt, if_pos ((Cmp.lt_real _ x).mpr hlt)⟩
    · exact ⟨0, .cons_zero fun z hz => (not_lt.mp hlt).trans (h.le z hz), if_neg (mt (Cmp.lt_real _ x).mp hlt)⟩

theorem isFirstMin_argmin {l : List ℝ} (hne : l ≠ []) : IsFirstMin l (argmin l) := by
  obtain ⟨i, h, e⟩ := argminPair_spec l hne
  have : argmin l = i := by simp [argmin, e]
  exact this ▸ h

theorem getD_argmin {l v : List ℝ} (hv : v ≠ []) (hl : l.length = v.length) (d : ℝ) :
    l.getD (argmin v) d = l[argmin v]'(hl ▸ (isFirstMin_argmin hv).lt) :=
  List.getD_eq_getElem _ _ _

theorem argmin_eq {l : List ℝ} {k : ℕ} (h : IsFirstMin l k) : argmin l = k :=
  (isFirstMin_argmin (List.ne_nil_of_length_pos (Nat.zero_lt_of_lt h.lt))).eq h

theorem argmin_map {f : ℝ → ℝ} (hf : StrictMono f) (l : List ℝ) : argmin (l.map f) = argmin l := by
  by_cases hne : l = []
  · subst hne; rfl
  · exact argmin_eq ((isFirstMin_argmin hne).map hf)

/-- for `n = m + 2` the forced last element `b` is what the formula gives at `k = m + 1` -/
theorem linspace_eq_map (a b : ℝ) (n : ℕ) :
    linspace a b n = (List.range n).map (fun k : ℕ => a + k * ((b - a) / ((n - 1 : ℕ) : ℝ))) := by
  match n with
  | 0 => rfl
  | 1 => simp [linspace]
  | m + 2 =>
    have hm : ((m + 1 : ℕ) : ℝ) ≠ 0 := by positivity
    simp only [linspace]
    rw [List.range_succ (n := m + 1), List.map_append, List.map_singleton, show m + 2 - 1 = m + 1 from rfl,
      mul_div_cancel₀ _ hm, add_sub_cancel]
    exact congrArg (· ++ [b]) (List.map_congr_left fun k _ => add_comm _ _)

theorem length_linspace (a b : ℝ) (n : ℕ) : (linspace a b n).length = n := by
  rw [linspace_eq_map, List.length_map, List.length_range]

theorem linspace_affine (α β a b : ℝ) (n : ℕ) :
    linspace (α * a + β) (α * b + β) n = (linspace a b n).map (fun x => α * x + β) := by
  rw [linspace_eq_map, linspace_eq_map, List.map_map]
  exact List.map_congr_left fun k _ => by simp only [Function.comp]; ring

theorem linspace_mem_between (a b : ℝ) (hab : a ≤ b) (n : ℕ) : ∀ x ∈ linspace a b n, a ≤ x ∧ x ≤ b := by
  intro x hx
  rw [linspace_eq_map] at hx
  obtain ⟨k, hk, rfl⟩ := List.mem_map.mp hx
  have hk' : (k : ℝ) ≤ ((n - 1 : ℕ) : ℝ) := by exact_mod_cast Nat.le_sub_one_of_lt (List.mem_range.mp hk)
  have hstep : 0 ≤ (b - a) / ((n - 1 : ℕ) : ℝ) := div_nonneg (sub_nonneg.mpr hab) (Nat.cast_nonneg _)
  have hup : (k : ℝ) * ((b - a) / ((n - 1 : ℕ) : ℝ)) ≤ b - a := by
    rw [mul_div_left_comm]
    exact mul_le_of_le_one_right (sub_nonneg.mpr hab) (div_le_one_of_le₀ hk' (Nat.cast_nonneg _))
  exact ⟨le_add_of_nonneg_right (mul_nonneg (Nat.cast_nonneg k) hstep), by linarith only [hup]⟩

theorem length_tile {α} (m : ℕ) (g : List α) : (tile m g).length = m * g.length := by
  induction m with
  | zero => simp [tile]
  | succ m ih => rw [tile, List.length_append, ih, Nat.succ_mul, Nat.add_comm]

end OptiVerif.NumList
