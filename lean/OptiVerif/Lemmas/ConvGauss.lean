import OptiVerif.Lemmas.ConvReal
import OptiVerif.Lemmas.GaussQ

namespace OptiVerif.Conv
open Real

theorem Q_eq_gQ (erfc : ℝ → ℝ) (h : GaussQ.ErfcSpec erfc) (x : ℝ) : Q erfc x = GaussQ.gQ x := by
  unfold Q qArg
  rw [h, half_real, Transc.sqrt_real, lit_real, Nat.cast_ofNat, mul_div_cancel₀ x (Real.sqrt_ne_zero'.mpr two_pos)]
  ring

/-- the model of `utils.Q` meets what C13 assumes of `Q` -/
theorem Q_spec (erfc : ℝ → ℝ) (h : GaussQ.ErfcSpec erfc) : Ber.QSpec (Q erfc) :=
  (funext (Q_eq_gQ erfc h) : Q erfc = GaussQ.gQ) ▸ GaussQ.gQ_spec

theorem gaus_eq_pdf (x mu std : ℝ) (hs : 0 < std) :
    gaus x mu std = ProbabilityTheory.gaussianPDFReal mu (Real.toNNReal (std ^ 2)) x := by
  have h1 : Real.sqrt (2 * Real.pi * std ^ 2) = Real.sqrt (2 * Real.pi) * std := by
    rw [Real.sqrt_mul (by positivity), Real.sqrt_sq hs.le]
  rw [gaus_real, ProbabilityTheory.gaussianPDFReal_def, Real.coe_toNNReal _ (sq_nonneg std), h1]
  congr 1
  · ring
  · congr 1; ring

end OptiVerif.Conv
