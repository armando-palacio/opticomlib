/-
From evaluated certificates to `Function.minimalPeriod` and `Nat.Prime` (C04).  An orbit confined to a set no larger than
its period fills the set (`image_iterate_eq`): with `period_of_cert` this gives both the step's period and Lucas' test.
-/
import OptiVerif.Lemmas.PrbsLinear
import Mathlib.Dynamics.PeriodicPts.Defs
import Mathlib.Data.Nat.Prime.Basic
import Mathlib.Data.List.Prime
import Mathlib.Order.Interval.Finset.Nat

namespace OptiVerif.PrbsCert
open Function

/-- Mathlib's `orderOf_eq_of_pow_and_pow_div_prime`, for `minimalPeriod` of any map -/
theorem period_of_cert {α : Type} (f : α → α) (N : ℕ) (s : α)
    (h1 : f^[N] s = s) (h2 : ∀ p, p.Prime → p ∣ N → f^[N / p] s ≠ s) :
    minimalPeriod f s = N := by
  obtain ⟨m, hm⟩ := IsPeriodicPt.minimalPeriod_dvd h1
  by_contra hne
  -- a proper divisor of `N` divides `N / p` for a prime `p` of the cofactor
  obtain ⟨p, hp, k, rfl⟩ := Nat.exists_prime_and_dvd (fun h : m = 1 => hne (by rw [hm, h, mul_one]))
  refine h2 p hp ⟨minimalPeriod f s * k, by rw [hm, Nat.mul_left_comm]⟩ ?_
  rw [hm, Nat.mul_left_comm, Nat.mul_div_cancel_left _ hp.pos]
  exact (isPeriodicPt_minimalPeriod f s).mul_const k

theorem image_iterate_eq {α : Type} [DecidableEq α] (f : α → α) (s : α) (S : Finset α)
    (hS : ∀ i < minimalPeriod f s, f^[i] s ∈ S) (hcard : S.card ≤ minimalPeriod f s) :
    (Finset.range (minimalPeriod f s)).image (fun i => f^[i] s) = S := by
  apply Finset.eq_of_subset_of_card_le
  · intro x hx
    obtain ⟨i, hi, rfl⟩ := Finset.mem_image.mp hx
    exact hS i (Finset.mem_range.mp hi)
  · rw [Finset.card_image_of_injOn, Finset.card_range]
    · exact hcard
    · simpa using iterate_injOn_Iio_minimalPeriod (f := f) (x := s)

theorem iterate_step_ne_zero (n t s : Nat) (hper : 0 < minimalPeriod (step n t) s) (hs0 : s ≠ 0) (k : Nat) :
    (step n t)^[k] s ≠ 0 := fun h0 => hs0 <| by
  have hk : k ≤ minimalPeriod (step n t) s * k := Nat.le_mul_of_pos_left k hper
  rw [← ((isPeriodicPt_minimalPeriod (step n t) s).mul_const k).eq, ← Nat.sub_add_cancel hk, iterate_add_apply, h0,
    iterate_fixed (step_zero n t)]

theorem image_iterate_step (n t s : Nat) (hper : minimalPeriod (step n t) s = 2^n - 1)
    (hs0 : s ≠ 0) (hs : s < 2^n) :
    (Finset.range (2^n - 1)).image (fun i => (step n t)^[i] s) = Finset.Ioo 0 (2^n) := by
  rw [← hper]
  exact image_iterate_eq _ s _ (fun i _ => Finset.mem_Ioo.mpr
    ⟨Nat.pos_of_ne_zero (iterate_step_ne_zero n t s (by omega) hs0 i), iterate_step_lt n t i s hs⟩) (by simp [hper])

theorem minimalPeriod_step_of_full_period (n t v : Nat) (hper : minimalPeriod (step n t) v = 2^n - 1)
    (hv0 : v ≠ 0) (hv : v < 2^n) (s : Nat) (hs0 : s ≠ 0) (hs : s < 2^n) :
    minimalPeriod (step n t) s = 2^n - 1 := by
  have hmem : s ∈ Finset.Ioo 0 (2^n) := Finset.mem_Ioo.mpr ⟨Nat.pos_of_ne_zero hs0, hs⟩
  rw [← image_iterate_step n t v hper hv0 hv] at hmem
  obtain ⟨i, _, rfl⟩ := Finset.mem_image.mp hmem
  have hpos : 0 < minimalPeriod (step n t) v := by omega
  rw [minimalPeriod_apply_iterate (minimalPeriod_pos_iff_mem_periodicPts.mp hpos), hper]

theorem card_odd_Ioo (m : Nat) : ((Finset.Ioo 0 (2*m)).filter (fun x => x % 2 = 1)).card = m := by
  have : (Finset.Ioo 0 (2*m)).filter (fun x => x % 2 = 1) = (Finset.range m).image (fun k => 2*k+1) := by
    ext x
    simp only [Finset.mem_filter, Finset.mem_Ioo, Finset.mem_image, Finset.mem_range]
    exact ⟨fun h => ⟨x / 2, by omega, by omega⟩, fun ⟨k, hk, h⟩ => by omega⟩
  rw [this, Finset.card_image_of_injective _ fun a b h => by simpa using h, Finset.card_range]

theorem ones_per_period (n t s : Nat) (hn : 1 ≤ n) (hper : minimalPeriod (step n t) s = 2^n - 1)
    (hs0 : s ≠ 0) (hs : s < 2^n) :
    ((Finset.range (2^n - 1)).filter (fun i => ((step n t)^[i] s) % 2 = 1)).card = 2^(n-1) := by
  have hinj : Set.InjOn (fun i => (step n t)^[i] s) (Finset.range (2^n - 1)) := by
    simpa [hper] using iterate_injOn_Iio_minimalPeriod (f := step n t) (x := s)
  rw [← card_odd_Ioo (2^(n-1)), Nat.mul_comm, Nat.two_pow_pred_mul_two hn,
    ← image_iterate_step n t s hper hs0 hs, Finset.filter_image,
    Finset.card_image_of_injOn (hinj.mono (Finset.coe_subset.2 (Finset.filter_subset _ _)))]

theorem mem_of_prime_dvd {N k : ℕ} {qs : List ℕ} (hqs : ∀ q ∈ qs, q.Prime) (hN : N ∣ qs.prod ^ k)
    {p : ℕ} (hp : p.Prime) (hpN : p ∣ N) : p ∈ qs :=
  mem_list_primes_of_dvd_prod hp.prime (fun q hq => (hqs q hq).prime) (hp.dvd_of_dvd_pow (hpN.trans hN))

/-- state `1` has full period, so its orbit is all non-zero states and they share it -/
theorem cycleOK_sound (n t : Nat) (qs : List Nat) (h : cycleOK n t qs = true) (hqs : ∀ q ∈ qs, q.Prime) :
    (∀ p, p.Prime → p ∣ 2^n - 1 → p ∈ qs) ∧
    ∀ s, s ≠ 0 → s < 2^n → minimalPeriod (step n t) s = 2^n - 1 := by
  simp only [cycleOK, Bool.and_eq_true, beq_iff_eq, List.all_eq_true, bne_iff_ne] at h
  obtain ⟨⟨hdvd, hN⟩, hq⟩ := h
  have hall : ∀ p, p.Prime → p ∣ 2^n - 1 → p ∈ qs := fun p =>
    mem_of_prime_dvd hqs (Nat.dvd_of_mod_eq_zero hdvd)
  refine ⟨hall, fun s hs0 hs => ?_⟩
  have h1 : 1 < 2^n := by omega
  have hn : 1 ≤ n := Nat.pos_of_ne_zero fun h => by simp [h] at h1
  have hit : ∀ k, k < 2^n → iterBits (squares n t (stepM n t) n) k 1 = (step n t)^[k] 1 := fun k hk => by
    rw [iterBits_squares n t n hn 1 (stepM n t) rfl k 1 hk h1, one_mul]
  refine minimalPeriod_step_of_full_period n t 1 (period_of_cert _ _ _ ?_ fun p hp hpd => ?_) one_ne_zero h1 s hs0 hs
  · rw [← hit _ (by omega), hN]
  · rw [← hit _ (by have := Nat.div_le_self (2^n - 1) p; omega)]
    exact hq p (hall p hp hpd)

theorem noDivFrom_sound (n k fuel : Nat) (hfuel : n.sqrt < k + fuel)
    (h : noDivFrom n k fuel = true) : ∀ m, k ≤ m → m ≤ n.sqrt → ¬ m ∣ n := by
  induction fuel generalizing k with
  | zero => intro m hm hms; omega
  | succ fuel ih =>
    intro m hm hms
    rw [noDivFrom] at h
    split at h
    · next hkk =>
      -- `k*k > n`, so `k > sqrt n ≥ m ≥ k`
      have := Nat.sqrt_lt.mpr hkk
      omega
    · split at h
      · cases h
      · next hmod =>
        rcases hm.eq_or_lt with rfl | hlt
        · exact fun hd => hmod (by simp [Nat.mod_eq_zero_of_dvd hd])
        · exact ih (k+1) (by omega) h m hlt hms

theorem isPrimeB_sound (n : Nat) (h : isPrimeB n = true) : n.Prime := by
  simp only [isPrimeB, Bool.and_eq_true, decide_eq_true_eq] at h
  rw [Nat.prime_def_le_sqrt]
  exact ⟨h.1, noDivFrom_sound n 2 n.sqrt (by omega) h.2⟩

theorem powMod_eq (a p f : Nat) : ∀ e, e < 2^f → powMod a p f e = a^e % p := by
  induction f with
  | zero =>
    intro e he
    obtain rfl : e = 0 := by omega
    rfl
  | succ f ih =>
    intro e he
    have : a^e = a^(e/2) * a^(e/2) * a^(e%2) := by rw [← pow_add, ← pow_add]; congr 1; omega
    rw [powMod, ih _ (by omega), this, ← Nat.mul_mod, Nat.mod_mul_mod]

/-- the powers of `a` are all of `1, …, p-1`; a divisor of `p` among them divides `a^(p-1) % p = 1`; no `ZMod` -/
theorem lucasOK_sound (p a : Nat) (qs : List Nat) (h : lucasOK p a qs = true) : p.Prime := by
  simp only [lucasOK, Bool.and_eq_true, beq_iff_eq, List.all_eq_true, bne_iff_ne, decide_eq_true_eq] at h
  obtain ⟨⟨⟨⟨hp, hqs⟩, hdvd⟩, hN⟩, hq⟩ := h
  have hit : ∀ k, (fun x => x * a % p)^[k] 1 = a^k % p := by
    intro k
    induction k with
    | zero => simp [Nat.mod_eq_of_lt hp]
    | succ k ih => rw [iterate_succ_apply', ih, pow_succ, Nat.mod_mul_mod]
  have hpm : ∀ k, k < p → powMod a p (p.log2 + 1) k = a^k % p := fun k hk =>
    powMod_eq a p _ k (hk.trans Nat.lt_log2_self)
  have h1 : a^(p-1) % p = 1 := by rw [← hpm _ (by omega)]; exact hN
  have hper : minimalPeriod (fun x => x * a % p) 1 = p - 1 := by
    refine period_of_cert _ _ _ (by rw [hit, h1]) fun q hq' hqd => ?_
    rw [hit, ← hpm _ (by have := Nat.div_le_self (p - 1) q; omega)]
    exact hq q (mem_of_prime_dvd (fun q hq => isPrimeB_sound q (hqs q hq)) (Nat.dvd_of_mod_eq_zero hdvd) hq' hqd)
  have hone : ∀ m i, i < p - 1 → m ∣ p → m ∣ a^i % p → m = 1 := fun m i hi hmp hm =>
    Nat.dvd_one.mp (h1 ▸ (Nat.dvd_mod_iff hmp).mpr
      (((Nat.dvd_mod_iff hmp).mp hm).trans (pow_dvd_pow a hi.le)))
  have himg := image_iterate_eq (fun x => x * a % p) 1 (Finset.Ioo 0 p) (fun i hi => by
    rw [hit, Finset.mem_Ioo]
    refine ⟨Nat.pos_of_ne_zero fun h0 => ?_, Nat.mod_lt _ (by omega)⟩
    have := hone p i (hper ▸ hi) dvd_rfl (h0 ▸ dvd_zero p)
    omega) (by simp [hper])
  refine Nat.prime_def_lt.mpr ⟨hp, fun m hm hmd => ?_⟩
  have hmem : m ∈ Finset.Ioo 0 p := Finset.mem_Ioo.mpr ⟨Nat.pos_of_dvd_of_pos hmd (by omega), hm⟩
  rw [← himg, hper] at hmem
  obtain ⟨i, hi, rfl⟩ := Finset.mem_image.mp hmem
  exact hone _ i (Finset.mem_range.mp hi) hmd (hit i ▸ dvd_rfl)

end OptiVerif.PrbsCert
