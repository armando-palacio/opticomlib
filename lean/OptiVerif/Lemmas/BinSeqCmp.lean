/-
Lemmas for `electrical_signal.__gt__/__lt__` of the binary_sequence model (C15).
-/
import OptiVerif.Lemmas.BinSeq
import Mathlib.Analysis.Complex.Norm

namespace OptiVerif.BinSeq

section
variable {R : Type} [Add R] [Mul R] [LT R] [DecidableLT R]

/-- the comparison kernel on squared magnitudes: signal above threshold for `gt`, below it otherwise -/
def cmpBit (gt : Bool) (x y : R × R) : Nat :=
  if (if gt then mag2 y < mag2 x else mag2 x < mag2 y) then 1 else 0

/-- well-formed operands: noise (if any) has the signal's shape -/
def WF (sig : List (R × R)) (noise : Option (List (R × R))) : Prop := ∀ l, noise = some l → l.length = sig.length

end

section
variable {R : Type} [Ring R]

/-- a real sample as the pair the model works on -/
def re (x : R) : R × R := (x, 0)

/-- `signal + noise` on real lists -/
def sumR (s : List R) (n : Option (List R)) : List R :=
  match n with
  | none => s
  | some l => List.zipWith (· + ·) s l

/-- broadcast of a length-1 threshold on real lists -/
def bcastR (n : Nat) (t : List R) : List R :=
  match t with
  | [x] => List.replicate n x
  | _ => t

end

/-- a complex sample as the pair the model works on -/
noncomputable def ofC (z : ℂ) : ℝ × ℝ := (z.re, z.im)

theorem zipWith_congr_mem {α β γ : Type} {f g : α → β → γ} {A : List α} {B : List β}
    (h : ∀ x ∈ A, ∀ y ∈ B, f x y = g x y) : List.zipWith f A B = List.zipWith g A B := by
  rw [← List.map_uncurry_zip_eq_zipWith, ← List.map_uncurry_zip_eq_zipWith]
  exact List.map_congr_left fun p hp => h p.1 (List.of_mem_zip hp).1 p.2 (List.of_mem_zip hp).2

theorem valid_zipWith {α β : Type} {f : α → β → Nat} (hf : ∀ x y, f x y = 0 ∨ f x y = 1) (A : List α) (B : List β) :
    Valid (List.zipWith f A B) := by
  rw [← List.map_uncurry_zip_eq_zipWith]
  exact valid_map (fun p => hf p.1 p.2) _

theorem total_length {R : Type} [Add R] (sig : List (R × R)) (noise : Option (List (R × R))) (h : WF sig noise) :
    (total sig noise).length = sig.length := by
  cases noise with
  | none => rfl
  | some l => simp [total, h l rfl]

theorem bcast_length {R : Type} (n : Nat) (t : List (R × R)) (h : t.length = n ∨ t.length = 1) : (bcast n t).length = n := by
  unfold bcast
  split
  · exact List.length_replicate
  · next hne =>
    rcases h with h | h
    · exact h
    · obtain ⟨x, rfl⟩ := List.length_eq_one_iff.mp h
      exact absurd rfl (hne x)

theorem mem_bcastR {R : Type} {n : Nat} {t : List R} {y : R} (h : y ∈ bcastR n t) : y ∈ t := by
  unfold bcastR at h
  split at h
  · rw [(List.mem_replicate.mp h).2]; exact List.mem_singleton_self _
  · exact h

section generic
variable {R : Type} [Add R] [Mul R] [LT R] [DecidableLT R]

theorem cmpBit_valid (gt : Bool) (x y : R × R) : cmpBit gt x y = 0 ∨ cmpBit gt x y = 1 :=
  (ite_eq_or_eq _ 1 0).symm

theorem compare_some (gt : Bool) (sig : List (R × R)) (noise : Option (List (R × R))) (t : List (R × R))
    (tn : Option (List (R × R))) :
    compare gt sig noise (some (t, tn)) =
      if t ≠ [] ∧ (t.length = sig.length ∨ t.length = 1) then
        .ok (List.zipWith (cmpBit gt) (total sig noise) (bcast sig.length (total t tn)))
      else .error .ValueError := by
  unfold compare
  simp only [List.length_eq_zero_iff]
  by_cases h0 : t = []
  · simp [h0]
  · by_cases h1 : t.length = sig.length ∨ t.length = 1
    · rw [if_neg h0, if_neg (by rintro ⟨a, b⟩; rcases h1 with h | h; exacts [a h.symm, b h]), if_pos ⟨h0, h1⟩]
      exact revalidate_of_valid (valid_zipWith (cmpBit_valid gt) _ _)
    · rw [if_neg h0, if_pos ⟨fun h => h1 (.inl h.symm), fun h => h1 (.inr h)⟩, if_neg (fun h => h1 h.2)]
end generic

section
variable {R : Type} [Ring R]

theorem mag2_re (x : R) : mag2 (re x) = x * x := by simp [mag2, re]

theorem total_re (s : List R) (n : Option (List R)) :
    total (s.map re) (n.map (List.map re)) = (sumR s n).map re := by
  cases n with
  | none => rfl
  | some l =>
    simp only [total, sumR, Option.map_some, List.zipWith_map, List.map_zipWith]
    congr 1
    funext x y
    simp [addC, re]

theorem bcast_re (n : Nat) (t : List R) : bcast n (t.map re) = (bcastR n t).map re := by
  match t with
  | [] => rfl
  | [x] => simp [bcast, bcastR]
  | x :: y :: r => rfl

end

section real
variable {R : Type} [Ring R] [LinearOrder R] [IsStrictOrderedRing R]

theorem mag2_re_lt_iff_abs (x y : R) : mag2 (re y) < mag2 (re x) ↔ |y| < |x| := by
  rw [mag2_re, mag2_re, abs_lt_iff_mul_self_lt]

theorem mag2_re_lt_iff_of_nonneg (x y : R) (hx : 0 ≤ x) (hy : 0 ≤ y) : mag2 (re y) < mag2 (re x) ↔ y < x := by
  rw [mag2_re_lt_iff_abs, abs_of_nonneg hx, abs_of_nonneg hy]

theorem zipWith_abs_of_nonneg (gt : Bool) {a b : List R} (ha : ∀ x ∈ a, 0 ≤ x) (hb : ∀ y ∈ b, 0 ≤ y) :
    List.zipWith (fun x y => if (if gt then |y| < |x| else |x| < |y|) then 1 else 0) a b =
      List.zipWith (fun x y => if (if gt then y < x else x < y) then 1 else 0) a b :=
  zipWith_congr_mem fun x hx y hy => by rw [abs_of_nonneg (ha x hx), abs_of_nonneg (hb y hy)]
end real

theorem mag2_ofC (z : ℂ) : mag2 (ofC z) = Complex.normSq z := by
  simp [mag2, ofC, Complex.normSq_apply]

end OptiVerif.BinSeq
