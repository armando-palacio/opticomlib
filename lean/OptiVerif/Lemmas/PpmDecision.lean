/-
HDD / SDD lemmas for the PPM model (C12): codewords and the results of both rules are treated row by row.
`Ppm.argmaxAux` is SYNC's first-maximum scan without the value (`argmaxAux_eq_fst`), specified in Lemmas/Argmax.lean.
-/
import OptiVerif.Lemmas.Guard
import OptiVerif.Lemmas.PpmList
import OptiVerif.Lemmas.Argmax

namespace OptiVerif.Ppm

theorem not_two_pow_of_lt_one (M : Int) (hM : M < 1) : ¬ ∃ k : Nat, M = 2 ^ k := by
  rintro ⟨k, rfl⟩
  have : (0 : Int) < 2 ^ k := Int.pow_pos (by decide)
  omega

theorem pow2Test_iff (M : Int) : pow2Test M = true ↔ ∃ k : Nat, M = 2 ^ k := by
  unfold pow2Test Gen.Ppm.pow2ExprHDD Gen.Ppm.pow2MinHDD
  by_cases hlt : M < 1
  · simpa [hlt] using not_two_pow_of_lt_one M hlt
  · obtain ⟨m, rfl⟩ : ∃ m : Nat, M = m := ⟨M.toNat, by omega⟩
    rw [if_neg hlt, Int.toNat_natCast, beq_iff_eq, Nat.and_sub_one_eq_zero_iff_isPowerOfTwo (by omega)]
    exact exists_congr fun k => by norm_cast

theorem pow2Test_pos (M : Nat) (h : pow2Test (M : Int) = true) : 0 < M := by
  by_contra hM
  exact not_two_pow_of_lt_one M (by omega) ((pow2Test_iff _).mp h)

theorem pow2TestS_eq (M : Int) : pow2TestS M = pow2Test M := rfl

/-- a valid PPM codeword of order `M`: whole symbols, exactly one ON slot in each -/
def ValidCW (M : Nat) (slots : List Bool) : Prop :=
  slots.length % M = 0 ∧ ∀ r ∈ chunks M (slots.length / M) slots, ones r = 1

theorem validCW_flatten (M : Nat) (hM : 0 < M) (rows : List (List Bool)) (h : ∀ r ∈ rows, r.length = M) :
    ValidCW M rows.flatten ↔ ∀ r ∈ rows, ones r = 1 := by
  rw [ValidCW, length_flatten_of_rows M rows h, Nat.mul_mod_left, Nat.mul_div_cancel _ hM, chunks_flatten M rows h]
  simp

theorem validCW_map_oneHot {β : Type} (M : Nat) (f : β → Nat) (L : List β) (h : ∀ x ∈ L, f x < M) :
    ValidCW M (L.map fun x => oneHot M (f x)).flatten := by
  cases L with
  | nil => exact ⟨rfl, by simp [chunks]⟩
  | cons x t =>
    rw [validCW_flatten M (Nat.zero_lt_of_lt (h x List.mem_cons_self)) _
      (List.forall_mem_map.mpr fun _ _ => oneHot_length _ _)]
    intro r hr
    obtain ⟨y, hy, rfl⟩ := List.mem_map.mp hr
    exact ones_oneHot M _ (h y hy)

theorem ValidCW.eq_oneHots {M : Nat} {slots : List Bool} (hv : ValidCW M slots) :
    ∃ ds : List Nat, (∀ d ∈ ds, d < M) ∧ ds.length = slots.length / M ∧ slots = (ds.map (oneHot M)).flatten := by
  obtain ⟨ds, hds, hrows⟩ := rows_oneHot M (chunks M (slots.length / M) slots) fun r hr =>
    ⟨chunks_row_length M _ slots (Nat.div_mul_le_self _ _) r hr, hv.2 r hr⟩
  refine ⟨ds, hds, by simpa using (congrArg List.length hrows).symm, ?_⟩
  rw [← hrows, flatten_chunks, Nat.div_mul_cancel (Nat.dvd_of_mod_eq_zero hv.1), List.take_length]

/-- numpy's contract for `np.random.randint(M)` -/
def RandintOK (randint : Nat → Nat → Nat) : Prop := ∀ c M, 0 < M → randint c M < M
/-- numpy's contract for `np.random.choice(j)` -/
def ChoiceOK (choice : Nat → List Nat → Nat) : Prop := ∀ c j, j ≠ [] → choice c j ∈ j

/-- what `Props.C12.hdd_spec` concludes of one repaired symbol `s'` given the received symbol `s` -/
def SymOK (M : Nat) (s s' : List Bool) : Prop :=
  s'.length = M ∧ ones s' = 1 ∧ (ones s = 1 → s' = s) ∧
  (1 ≤ ones s → ∀ j : Nat, s'[j]? = some true → s[j]? = some true)

/-- which draws repair the rest does not matter for what is proved symbol by symbol: its counters are forgotten -/
theorem hddSyms_cons (M : Nat) (ri : Nat → Nat → Nat) (ch : Nat → List Nat → Nat) (s : List Bool)
    (rest : List (List Bool)) (zi mi : Nat) :
    ∃ zi' mi', hddSyms M ri ch (s :: rest) zi mi =
      (if ones s = 0 then s.set (ri zi M) true else if ones s > 1 then oneHot M (ch mi (onIdx s)) else s)
        :: hddSyms M ri ch rest zi' mi' := by
  rw [hddSyms]
  split
  · exact ⟨_, _, rfl⟩
  · split <;> exact ⟨_, _, rfl⟩

theorem symOK_repair (M : Nat) (s : List Bool) (hs : s.length = M) (r c : Nat) (hr : r < M)
    (hc : onIdx s ≠ [] → c ∈ onIdx s) :
    SymOK M s (if ones s = 0 then s.set r true else if ones s > 1 then oneHot M c else s) := by
  split
  · next h0 =>
    have : s.set r true = oneHot M r := by rw [oneHot, ← hs, ← eq_replicate_of_ones_zero s h0]
    rw [this]
    exact ⟨oneHot_length _ _, ones_oneHot M _ hr, by omega, by omega⟩
  · split
    · have hne : onIdx s ≠ [] := by
        rw [Ne, ← List.length_eq_zero_iff, onIdx, onIdxFrom_length]
        omega
      have hon : s[c]? = some true := (mem_onIdxFrom 0 s c (hc hne)).2
      have hlt := (List.getElem?_eq_some_iff.mp hon).1
      refine ⟨oneHot_length M c, ones_oneHot M c (hs ▸ hlt), by omega, fun _ j hj => ?_⟩
      have hjM : j < M := by simpa using (List.getElem?_eq_some_iff.mp hj).1
      rw [oneHot_getElem? M c j hjM] at hj
      obtain rfl : c = j := by simpa using hj
      exact hon
    · exact ⟨hs, by omega, fun _ => rfl, fun _ j hj => hj⟩

theorem hddSyms_spec (M : Nat) (hM : 0 < M) (ri : Nat → Nat → Nat) (ch : Nat → List Nat → Nat)
    (hr : RandintOK ri) (hc : ChoiceOK ch) (rows : List (List Bool)) (hrows : ∀ r ∈ rows, r.length = M)
    (zi mi : Nat) :
    (hddSyms M ri ch rows zi mi).length = rows.length ∧
    (∀ r' ∈ hddSyms M ri ch rows zi mi, r'.length = M) ∧
    ∀ (i : Nat) s s', rows[i]? = some s → (hddSyms M ri ch rows zi mi)[i]? = some s' → SymOK M s s' := by
  induction rows generalizing zi mi with
  | nil => simp [hddSyms]
  | cons s rest ih =>
    obtain ⟨hs, hrest⟩ := List.forall_mem_cons.mp hrows
    obtain ⟨zi', mi', e⟩ := hddSyms_cons M ri ch s rest zi mi
    obtain ⟨ihl, ihr, ihs⟩ := ih hrest zi' mi'
    have head := symOK_repair M s hs _ _ (hr zi M hM) (hc mi (onIdx s))
    rw [e]
    refine ⟨by simp [ihl], List.forall_mem_cons.mpr ⟨head.1, ihr⟩, fun i => ?_⟩
    cases i with
    | zero =>
      simp only [List.getElem?_cons_zero, Option.some.injEq]
      rintro _ _ rfl rfl
      exact head
    | succ i => exact ihs i

theorem hddSyms_id (M : Nat) (ri : Nat → Nat → Nat) (ch : Nat → List Nat → Nat) (rows : List (List Bool))
    (h : ∀ r ∈ rows, ones r = 1) (zi mi : Nat) : hddSyms M ri ch rows zi mi = rows := by
  induction rows generalizing zi mi with
  | nil => rfl
  | cons s rest ih =>
    obtain ⟨h1, hrest⟩ := List.forall_mem_cons.mp h
    obtain ⟨zi', mi', e⟩ := hddSyms_cons M ri ch s rest zi mi
    rw [e, if_neg (by omega), if_neg (by omega), ih hrest]

theorem hddBits_ok_iff {M : Nat} {ri : Nat → Nat → Nat} {ch : Nat → List Nat → Nat} {slots out : List Bool} :
    hddBits (M : Int) ri ch slots = .ok out ↔
      pow2Test (M : Int) = true ∧ slots.length % M = 0 ∧
        out = (hddSyms M ri ch (chunks M (slots.length / M) slots) 0 0).flatten := by
  rw [hddBits, Int.toNat_natCast, ite_error_eq_ok, ite_error_eq_ok, Except.ok.injEq, eq_comm (b := out)]
  simp only [Bool.not_eq_true', Bool.not_eq_false, not_not]

section
variable {R : Type} [LinearOrder R]

theorem argmaxAux_eq_fst : ∀ (xs : List R) (best : R) (bi i : Nat),
    argmaxAux xs best bi i = (Sync.argmaxFrom xs best bi i).1
  | [], _, _, _ => rfl
  | x :: xs, best, bi, i => by
    rw [argmaxAux, Sync.argmaxFrom]
    split_ifs <;> exact argmaxAux_eq_fst xs _ _ _

theorem argmax_spec (l : List R) (hl : l ≠ []) :
    ∃ v, l[argmax l]? = some v ∧ (∀ (j : Nat) x, l[j]? = some x → x ≤ v) ∧
      (∀ (j : Nat) x, j < argmax l → l[j]? = some x → x < v) := by
  obtain ⟨a, t, rfl⟩ := List.exists_cons_of_ne_nil hl
  obtain ⟨h1, h2, h3⟩ := Sync.argmax_spec (a :: t) _ _ rfl
  rw [argmax, argmaxAux_eq_fst]
  exact ⟨_, h1, fun j x hx => h2 x (List.mem_of_getElem? hx), h3⟩

theorem argmax_lt_length (l : List R) (hl : 0 < l.length) : argmax l < l.length := by
  obtain ⟨v, hv, _⟩ := argmax_spec l (List.ne_nil_of_length_pos hl)
  exact (List.getElem?_eq_some_iff.mp hv).1

theorem argmax_eq_of_lt (l : List R) (d : Nat) (v : R) (hd : l[d]? = some v)
    (h : ∀ (j : Nat) x, j ≠ d → l[j]? = some x → x < v) : argmax l = d := by
  obtain ⟨w, hw, hmax, _⟩ := argmax_spec l (by rintro rfl; simp at hd)
  by_contra hne
  exact absurd (hmax d v hd) (not_le.mpr (h _ w hne hw))

theorem argmax_oneHot (M d : Nat) (hd : d < M) (lo hi : R) (h : lo < hi) :
    argmax ((oneHot M d).map (fun b => if b then hi else lo)) = d := by
  refine argmax_eq_of_lt _ d hi (by simp [oneHot_getElem? M d d hd]) fun j x hj hx => ?_
  have hjM : j < M := by simpa using (List.getElem?_eq_some_iff.mp hx).1
  rw [List.getElem?_map, oneHot_getElem? M d j hjM] at hx
  simp [Ne.symm hj] at hx
  exact hx ▸ h

variable [Add R] [Zero R]

omit [LinearOrder R] in
theorem slotSums_length (sps : Nat) (x : List R) : (slotSums sps x).length = x.length / sps := by
  simp [slotSums]

omit [LinearOrder R] in
theorem slotSums_flatten (sps : Nat) (hs : 0 < sps) (rows : List (List R)) (h : ∀ r ∈ rows, r.length = sps) :
    slotSums sps rows.flatten = rows.map sumL := by
  rw [slotSums, length_flatten_of_rows sps rows h, Nat.mul_div_cancel _ hs, chunks_flatten sps rows h]

theorem sdd_ok_iff {M sps : Nat} {x : List R} {out : List Bool} :
    sdd (M : Int) sps x = .ok out ↔
      pow2Test (M : Int) = true ∧ 0 < sps ∧ x.length % (M * sps) = 0 ∧
        out = ((chunks M (x.length / sps / M) (slotSums sps x)).map fun sym => oneHot M (argmax sym)).flatten := by
  simp only [sdd, slotSums_length, ite_error_eq_ok, Except.ok.injEq,
    Bool.not_eq_true', Bool.not_eq_false, not_not, eq_comm (b := out)]
  refine and_congr_right fun hp => ?_
  have := pow2Test_pos M hp
  exact and_congr_left' (by rw [Nat.mul_eq_zero]; omega)
end

end OptiVerif.Ppm
