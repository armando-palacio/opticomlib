/-
The `si` ladder: a table of consecutive intervals (`Tiles`) returns the one row that contains `x`; each row of the table
found in the source scales by the inverse of the prefix it prints (`RowOk`).
-/
import OptiVerif.Model.Si
import Mathlib.Tactic.NormNum
import Mathlib.Algebra.Order.Field.Rat

namespace OptiVerif.Si

/-- the documented ladder: T, G, M, k, (none), m, μ, n, p, f -/
def documented : List Row := [
  ((10:Rat)^12, none, 1/(10:Rat)^12, [84]),
  ((10:Rat)^9, some ((10:Rat)^12), 1/(10:Rat)^9, [71]),
  ((10:Rat)^6, some ((10:Rat)^9), 1/(10:Rat)^6, [77]),
  ((10:Rat)^3, some ((10:Rat)^6), 1/(10:Rat)^3, [107]),
  (1, some ((10:Rat)^3), 1, []),
  (1/(10:Rat)^3, some 1, (10:Rat)^3, [109]),
  (1/(10:Rat)^6, some (1/(10:Rat)^3), (10:Rat)^6, [956]),
  (1/(10:Rat)^9, some (1/(10:Rat)^6), (10:Rat)^9, [110]),
  (1/(10:Rat)^12, some (1/(10:Rat)^9), (10:Rat)^12, [112]),
  (1/(10:Rat)^15, some (1/(10:Rat)^12), (10:Rat)^15, [102])]

/-- the SI prefixes f p n μ (u) m (none) k M G T as code points, with their values; no row prints `u` -/
def prefixTable : List (List Nat × Rat) := [
  ([102], 1/(10:Rat)^15), ([112], 1/(10:Rat)^12), ([110], 1/(10:Rat)^9), ([956], 1/(10:Rat)^6), ([117], 1/(10:Rat)^6),
  ([109], 1/(10:Rat)^3), ([], 1), ([107], (10:Rat)^3), ([77], (10:Rat)^6), ([71], (10:Rat)^9), ([84], (10:Rat)^12)]

def prefixValue (p : List Nat) : Option Rat := (prefixTable.find? (fun r => r.1 == p)).map (fun r => r.2)

/-- a row `(A, B?, S, P)`: `if A <= x [< B]: return f'{x*S:.{k}f} P{unit}'` -/
abbrev Row.lo (r : Row) : Rat := r.1
abbrev Row.hi (r : Row) : Option Rat := r.2.1
abbrev Row.scale (r : Row) : Rat := r.2.2.1
abbrev Row.pfx (r : Row) : List Nat := r.2.2.2

theorem rows_documented : Gen.SiLadder.rows = documented := by
  unfold Gen.SiLadder.rows documented
  norm_num

theorem zeroCase_documented : Gen.SiLadder.zeroCase = true := rfl

theorem si_eq (x : Rat) : si x = siRows true documented x := by
  unfold si; rw [rows_documented, zeroCase_documented]

theorem hits_iff (r : Row) (x : Rat) :
    hits r x = true ↔ r.lo ≤ x ∧ (∀ b, r.hi = some b → x < b) := by
  unfold hits
  rcases r with ⟨lo, hi, sc, p⟩
  cases hi <;> simp [Row.lo, Row.hi]

theorem not_hits_of_lt {r : Row} {x : Rat} (h : x < r.lo) : hits r x = false := by
  rw [← Bool.not_eq_true, hits_iff]
  exact fun hh => absurd hh.1 (not_le.mpr h)

theorem siRows_cons_hit {z : Bool} {r : Row} {rs : List Row} {x : Rat} (h : hits r x = true) :
    siRows z (r :: rs) x = .row r.pfx (x * r.scale) := by
  rw [siRows, if_pos h]

theorem siRows_cons_miss {z : Bool} {r : Row} {rs : List Row} {x : Rat} (h : hits r x = false) :
    siRows z (r :: rs) x = siRows z rs x := by
  rw [siRows, if_neg (by simp [h])]

theorem siRows_none_hit {z : Bool} {rows : List Row} {x : Rat} (h : ∀ r ∈ rows, hits r x = false) :
    siRows z rows x = if z && decide (x = 0) then .zero else .none := by
  induction rows with
  | nil => rfl
  | cons r rs ih =>
    rw [siRows_cons_miss (h r List.mem_cons_self)]
    exact ih (fun r' hr' => h r' (List.mem_cons_of_mem _ hr'))

/-- consecutive intervals from `hi` (`none`: unbounded) down to `lo` -/
def Tiles : Option Rat → List Row → Rat → Prop
  | hi, [], lo => hi = some lo
  | hi, r :: rs, lo => r.hi = hi ∧ (∀ b ∈ hi, r.lo ≤ b) ∧ Tiles (some r.lo) rs lo

instance Tiles.dec : ∀ hi rows lo, Decidable (Tiles hi rows lo)
  | _, [], _ => inferInstanceAs (Decidable (_ = _))
  | _, r :: rs, lo =>
    have := Tiles.dec (some r.lo) rs lo
    inferInstanceAs (Decidable (_ ∧ _ ∧ _))

namespace Tiles
variable {rows : List Row} {lo x : Rat}

theorem lo_le : ∀ {hi}, Tiles hi rows lo → (∀ b ∈ hi, lo ≤ b) ∧ ∀ r ∈ rows, lo ≤ r.lo := by
  induction rows with
  | nil => intro hi h; exact ⟨fun b hb => by rw [h] at hb; cases hb; exact le_rfl, by simp⟩
  | cons r rs ih =>
    intro hi ⟨_, hle, h⟩
    obtain ⟨h1, h2⟩ := ih h
    have := h1 _ rfl
    exact ⟨fun b hb => this.trans (hle b hb), List.forall_mem_cons.mpr ⟨this, h2⟩⟩

theorem not_hit : ∀ {b}, Tiles (some b) rows lo → b ≤ x → ∀ r ∈ rows, hits r x = false := by
  induction rows with
  | nil => simp
  | cons r rs ih =>
    intro b ⟨hb, hle, h⟩ hx r' hr'
    rcases List.mem_cons.mp hr' with rfl | hr'
    · rw [← Bool.not_eq_true, hits_iff]
      exact fun hh => absurd (hh.2 b hb) (not_lt.mpr hx)
    · exact ih h ((hle b rfl).trans hx) r' hr'

theorem hit {z : Bool} (hx : lo ≤ x) : ∀ {hi}, Tiles hi rows lo → (∀ b ∈ hi, x < b) →
    ∃ r ∈ rows, hits r x = true ∧ (∀ r' ∈ rows, hits r' x = true → r' = r) ∧
      siRows z rows x = .row r.pfx (x * r.scale) := by
  induction rows with
  | nil => intro hi h hb; exact absurd (hb lo h) (not_lt.mpr hx)
  | cons r rs ih =>
    intro hi ⟨hr, hle, h⟩ hb
    by_cases hrx : r.lo ≤ x
    · have hh : hits r x = true := (hits_iff r x).mpr ⟨hrx, by rw [hr]; exact hb⟩
      refine ⟨r, List.mem_cons_self, hh, List.forall_mem_cons.mpr ⟨fun _ => rfl, fun r' hr' hh' => ?_⟩,
        siRows_cons_hit hh⟩
      rw [h.not_hit hrx r' hr'] at hh'; cases hh'
    · have hn : hits r x = false := not_hits_of_lt (not_le.mp hrx)
      obtain ⟨r₁, hr₁, hh, hu, hs⟩ := ih h (fun b hb => by cases hb; exact not_le.mp hrx)
      refine ⟨r₁, List.mem_cons_of_mem _ hr₁, hh, List.forall_mem_cons.mpr ⟨fun hh' => ?_, hu⟩,
        by rw [siRows_cons_miss hn, hs]⟩
      rw [hn] at hh'; cases hh'

theorem below {z : Bool} {hi} (h : Tiles hi rows lo) (hx : x < lo) :
    siRows z rows x = if z && decide (x = 0) then .zero else .none :=
  siRows_none_hit fun r hr => not_hits_of_lt (lt_of_lt_of_le hx (h.lo_le.2 r hr))

end Tiles

/-- the printed prefix has the value `r.lo`, the scale is its inverse, the row spans three decades
    (`top`: the missing upper end of the first row) -/
def RowOk (top : Rat) (r : Row) : Prop :=
  0 < r.lo ∧ prefixValue r.pfx = some r.lo ∧ r.scale * r.lo = 1 ∧ r.hi.getD top = 1000 * r.lo

instance (top : Rat) (r : Row) : Decidable (RowOk top r) := inferInstanceAs (Decidable (_ ∧ _ ∧ _ ∧ _))

theorem RowOk.scale {top : Rat} {r : Row} (h : RowOk top r) :
    ∃ v, prefixValue r.pfx = some v ∧ r.scale * v = 1 :=
  ⟨r.lo, h.2.1, h.2.2.1⟩

theorem RowOk.good {top x : Rat} {r : Row} (h : RowOk top r) (hh : hits r x = true) :
    ∃ v, prefixValue r.pfx = some v ∧ x * r.scale * v = x ∧
      (x < top → 1 ≤ x * r.scale ∧ x * r.scale < 1000) := by
  obtain ⟨hpos, hp, hs, hw⟩ := h
  rw [hits_iff] at hh
  refine ⟨r.lo, hp, by rw [mul_assoc, hs, mul_one], fun hlt => ?_⟩
  have hx : x < 1000 * r.lo := by
    rw [← hw]
    cases hb : r.hi with
    | none => exact hlt
    | some b => exact hh.2 b hb
  rw [eq_one_div_of_mul_eq_one_left hs, mul_one_div, le_div_iff₀ hpos, div_lt_iff₀ hpos, one_mul]
  exact ⟨hh.1, hx⟩

/-! Plain `decide` fails: `Rat` arithmetic needs `Nat.gcd`, which only the kernel evaluates. -/

theorem documented_tiles : Tiles none documented (1/(10:Rat)^15) := by decide +kernel

theorem documented_rowOk : ∀ r ∈ documented, RowOk ((10:Rat)^15) r := by decide +kernel

theorem si_hit (x : Rat) (hx : 1/(10:Rat)^15 ≤ x) :
    ∃ r ∈ documented, hits r x = true ∧ (∀ r' ∈ documented, hits r' x = true → r' = r) ∧
      si x = .row r.pfx (x * r.scale) := by
  simp only [si_eq]
  exact documented_tiles.hit hx (fun b hb => by cases hb)

end OptiVerif.Si
