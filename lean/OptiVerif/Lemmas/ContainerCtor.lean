/-
Constructors of the container model.  On arbitrary input one specification serves both classes (`mkCls_spec`); on
arrays an object already holds the call is the contract test of the object made of these arrays (`construct_arr`).
-/
import OptiVerif.Lemmas.ContainerRows
import OptiVerif.Lemmas.Guard

namespace OptiVerif.Container
open OptiVerif.Wire (Err)

variable {α : Type}

def validate (c : Cls) (p : Option Pol) (d : Data α) : Except Err (Nat × Rows α) :=
  match c with
  | .E => (normE d).map fun rs => (1, rs)
  | .O => normO p d

def mkCls [DropIm α] (c : Cls) (sig : Raw α) (noise : Option (Raw α)) (p : Option Pol) (dtype : Option DType) :
    Except Err (Sig α) :=
  match prep sig noise dtype with
  | .error e => .error e
  | .ok (t, s, n) =>
    match validate c p s with
    | .error e => .error e
    | .ok (k, rs) =>
      match n with
      | none => .ok ⟨c, k, t, rs, none⟩
      | some nd =>
        match validate c p nd with
        | .error e => .error e
        | .ok (_, rn) => .ok ⟨c, k, t, rs, some rn⟩

theorem mkE_eq [DropIm α] (sig : Raw α) (noise : Option (Raw α)) (dtype : Option DType) :
    mkE sig noise dtype = mkCls .E sig noise none dtype := by
  unfold mkE mkCls validate
  rcases prep sig noise dtype with _ | ⟨t, s, n⟩
  · rfl
  · rcases hs : normE s with _ | rs <;> simp only [hs, Except.map]
    rcases n with _ | nd
    · rfl
    · rcases hn : normE nd with _ | rn <;> simp only [hn]

theorem mkO_eq [DropIm α] (sig : Raw α) (noise : Option (Raw α)) (p : Option Pol) (dtype : Option DType) :
    mkO sig noise p dtype = mkCls .O sig noise p dtype := rfl

theorem construct_eq [DropIm α] (c : Cls) (sig : Raw α) (noise : Option (Raw α)) (dtype : Option DType) :
    construct c sig noise dtype = mkCls c sig noise none dtype := by
  cases c
  · exact mkE_eq ..
  · exact mkO_eq ..

theorem npArray_spec [DropIm α] {r : Raw α} {d : Option DType} {t : DType} {x : Data α}
    (h : npArray r d = .ok (t, x)) : x.Rect ∧ x.shape = r.data.shape := by
  unfold npArray at h
  split at h
  · cases h
  · rename_i hr
    have hrect : r.data.Rect := (Data.ragged_eq_false_iff _).1 (Bool.eq_false_iff.2 hr)
    split at h
    · injection h with h; injection h with _ h; subst h
      exact ⟨hrect, rfl⟩
    · split at h
      · cases h
      · injection h with h; injection h with _ h; subst h
        exact ⟨(Data.rect_map _ _).2 hrect, Data.shape_map _ _⟩

theorem prep_spec [DropIm α] {sig : Raw α} {noise : Option (Raw α)} {dtype : Option DType}
    {t : DType} {sd : Data α} {nd : Option (Data α)} (h : prep sig noise dtype = .ok (t, sd, nd)) :
    sd.Rect ∧ sd.shape = sig.data.shape ∧ (nd.isSome = noise.isSome) ∧
      ∀ n, nd = some n → n.Rect ∧ n.shape = sd.shape := by
  unfold prep at h
  cases hs : npArray sig dtype with
  | error e => simp [hs] at h
  | ok p =>
    obtain ⟨hr, hsh⟩ := npArray_spec hs
    cases noise with
    | none =>
      simp only [hs, Except.ok.injEq] at h
      obtain ⟨-, rfl, rfl⟩ := h
      exact ⟨hr, hsh, rfl, by intro n hn; cases hn⟩
    | some nr =>
      cases hn : npArray nr dtype with
      | error e => simp [hs, hn] at h
      | ok q =>
        obtain ⟨hrn, -⟩ := npArray_spec hn
        simp only [hs, hn] at h
        split at h
        · cases h
        · rename_i hshape
          obtain ⟨-, rfl, rfl⟩ := h
          refine ⟨(Data.rect_map _ _).2 hr, (Data.shape_map _ _).trans hsh, rfl, ?_⟩
          intro n' hn'
          injection hn' with hn'; subst hn'
          refine ⟨(Data.rect_map _ _).2 hrn, ?_⟩
          rw [Data.shape_map, Data.shape_map]
          exact (Decidable.not_not.1 hshape).symm

theorem normE_spec {d : Data α} {rs : Rows α} (h : normE d = .ok rs) :
    rs.Valid ∧ rs.count = 1 ∧ rs.len = d.lastDim := by
  cases d with
  | s x => simp [normE] at h; subst h; simp [Rows.Valid, Rows.count, Rows.len, Data.lastDim]
  | v xs =>
    simp only [normE] at h
    split at h
    · cases h
    · injection h with h; subst h
      simp [Rows.Valid, Rows.count, Rows.len, Data.lastDim]; omega
  | m rows => simp [normE] at h

/-- polarisation count the `n_pol` table gives an array: scalars and 1-D default to 1, 2-D to 2 (the closed form of
    `Gen.Container.npolDefault_*`: `normO_spec`) -/
def rawPol (d : Data α) (p : Option Pol) : Nat :=
  (p.getD (match d with | .m _ => .p2 | _ => .p1)).toNat

theorem rawPol_eq (d : Data α) (p : Option Pol) :
    rawPol d p = (p.getD (if d.shape.length = 2 then .p2 else .p1)).toNat := by
  rcases d with _ | _ | (_ | _) <;> rfl

theorem normO_spec {p : Option Pol} {d : Data α} {k : Nat} {rs : Rows α} (h : normO p d = .ok (k, rs))
    (hr : d.Rect) : rs.Valid ∧ k = rs.count ∧ k = rawPol d p ∧ rs.len = d.lastDim := by
  -- every branch of the table ends in the same choice: one row, or two rows of equal length
  have key : ∀ (q : Pol) (r r' : List α), 1 ≤ r.length → r'.length = r.length →
      (match q with
        | .p1 => Except.ok (1, Rows.one r)
        | .p2 => Except.ok (2, Rows.two r r') : Except Err (Nat × Rows α)) = .ok (k, rs) →
      rs.Valid ∧ k = rs.count ∧ k = q.toNat ∧ rs.len = r.length := by
    intro q r r' h1 h2 h
    cases q <;> (injection h with h; injection h with hk hrs; subst hk hrs)
    · exact ⟨h1, rfl, rfl, rfl⟩
    · exact ⟨⟨h1, h2⟩, rfl, rfl, rfl⟩
  match d, h, hr with
  | .s x, h, _ =>
    simp only [normO] at h
    exact key _ [x] [x] (Nat.le_refl 1) rfl h
  | .v xs, h, _ =>
    simp only [normO] at h
    split at h
    · cases h
    · exact key _ xs xs (by omega) rfl h
  | .m [r], h, _ =>
    simp only [normO] at h
    split at h
    · cases h
    · exact key _ r r (by omega) rfl h
  | .m [r1, r2], h, hr =>
    simp only [normO] at h
    split at h
    · cases h
    · exact key _ r1 r2 (by omega) (by simpa [Data.Rect, rect] using hr) h
  | .m [], h, _ => simp [normO] at h
  | .m (_ :: _ :: _ :: _), h, _ => simp [normO] at h

def clsPol (c : Cls) (p : Option Pol) (d : Data α) : Nat :=
  match c with
  | .E => 1
  | .O => rawPol d p

theorem clsPol_of_shape (c : Cls) (p : Option Pol) {d d' : Data α} (h : d'.shape = d.shape) :
    clsPol c p d' = clsPol c p d := by
  cases c
  · rfl
  · rw [clsPol, clsPol, rawPol_eq, rawPol_eq, h]

theorem validate_spec {c : Cls} {p : Option Pol} {d : Data α} {k : Nat} {rs : Rows α} (h : validate c p d = .ok (k, rs))
    (hr : d.Rect) : rs.Valid ∧ k = rs.count ∧ k = clsPol c p d ∧ rs.len = d.lastDim := by
  cases c with
  | O => exact normO_spec h hr
  | E =>
    unfold validate at h
    cases hs : normE d with
    | error e => simp [hs, Except.map] at h
    | ok rs' =>
      simp only [hs, Except.map, Except.ok.injEq] at h
      obtain ⟨rfl, rfl⟩ := h
      obtain ⟨v, c, l⟩ := normE_spec hs
      exact ⟨v, c.symm, rfl, l⟩

theorem mkCls_spec [DropIm α] {c : Cls} {sig : Raw α} {noise : Option (Raw α)} {p : Option Pol} {dtype : Option DType}
    {s : Sig α} (h : mkCls c sig noise p dtype = .ok s) :
    WF s ∧ s.cls = c ∧ s.npol = clsPol c p sig.data ∧ s.len = sig.data.lastDim ∧ s.noise.isSome = noise.isSome := by
  unfold mkCls at h
  cases hp : prep sig noise dtype with
  | error e => simp [hp] at h
  | ok q =>
    obtain ⟨t, sd, nd⟩ := q
    obtain ⟨hr, hsh, hsome, hnd⟩ := prep_spec hp
    simp only [hp] at h
    cases hs : validate c p sd with
    | error e => simp [hs] at h
    | ok krs =>
      obtain ⟨k, rs⟩ := krs
      obtain ⟨hv, hk, hkp, hl⟩ := validate_spec hs hr
      simp only [hs] at h
      obtain ⟨nz, rfl, hnz, hz⟩ : ∃ nz, s = ⟨c, k, t, rs, nz⟩ ∧ (∀ n', nz = some n' → n'.Fits rs) ∧
          nz.isSome = nd.isSome := by
        cases nd with
        | none => injection h with h; exact ⟨none, h.symm, nofun, rfl⟩
        | some n =>
          obtain ⟨hrn, hshn⟩ := hnd n rfl
          cases hn : validate c p n with
          | error e => simp [hn] at h
          | ok krn =>
            obtain ⟨kn, rn⟩ := krn
            obtain ⟨hvn, hkn, hknp, hln⟩ := validate_spec hn hrn
            simp only [hn, Except.ok.injEq] at h
            refine ⟨some rn, h.symm, fun n' hn' => ?_, rfl⟩
            injection hn' with hn'; subst hn'
            exact ⟨hvn, by rw [← hkn, ← hk, hknp, hkp, clsPol_of_shape c p hshn],
              by rw [hln, hl, Data.lastDim_of_shape hshn]⟩
      exact ⟨⟨hv, hnz, hk, fun hc => by subst hc; exact hk.symm.trans hkp⟩, rfl,
        hkp.trans (clsPol_of_shape c p hsh), by rw [Sig.len, hl, Data.lastDim_of_shape hsh], hz.trans hsome⟩

theorem mkE_spec [DropIm α] {sig : Raw α} {noise : Option (Raw α)} {dtype : Option DType} {s : Sig α}
    (h : mkE sig noise dtype = .ok s) :
    WF s ∧ s.cls = .E ∧ s.npol = 1 ∧ s.len = sig.data.lastDim ∧ s.noise.isSome = noise.isSome :=
  mkCls_spec ((mkE_eq sig noise dtype).symm.trans h)

theorem mkO_spec [DropIm α] {sig : Raw α} {noise : Option (Raw α)} {npol : Option Pol} {dtype : Option DType}
    {s : Sig α} (h : mkO sig noise npol dtype = .ok s) :
    WF s ∧ s.cls = .O ∧ s.npol = rawPol sig.data npol ∧ s.len = sig.data.lastDim ∧
      s.noise.isSome = noise.isSome :=
  mkCls_spec ((mkO_eq sig noise npol dtype).symm.trans h)

instance (r : Rows α) : Decidable r.Valid := by
  cases r <;> unfold Rows.Valid <;> infer_instance

instance (s : Sig α) : Decidable (WF s) :=
  decidable_of_iff
    (s.sig.Valid ∧ (∀ n, s.noise = some n → n.Valid ∧ n.count = s.sig.count ∧ n.len = s.sig.len) ∧
      s.npol = s.sig.count ∧ (s.cls = .E → s.sig.count = 1))
    ⟨fun ⟨a, b, c, d⟩ => ⟨a, b, c, d⟩, fun ⟨a, b, c, d⟩ => ⟨a, b, c, d⟩⟩

/-- `self.__class__(signal, noise, dtype)` on arrays the calling method has just computed: the candidate made of
    these very arrays, if it satisfies the contract -/
def build (s : Sig α) : Except Err (Sig α) :=
  if WF s then .ok s else .error .ValueError

theorem build_of {s : Sig α} (h : WF s) : build s = .ok s := if_pos h

theorem build_of_not {s : Sig α} (h : ¬ WF s) : build s = .error .ValueError := if_neg h

theorem build_ok_iff {s s' : Sig α} : build s = .ok s' ↔ WF s ∧ s' = s := by
  unfold build
  rw [ite_else_error_eq_ok, Except.ok.injEq, eq_comm]

theorem build_ok {s s' : Sig α} (h : build s = .ok s') : s' = s ∧ WF s' := by
  obtain ⟨w, rfl⟩ := build_ok_iff.1 h
  exact ⟨rfl, w⟩

theorem build_raises (s : Sig α) : Raises (· = Err.ValueError) (build s) := .ite (.ok _) (.error rfl)

/-! `dt`: the dtype the call ends with (`hd`); the cast to it changes no value (`ht`, `hn`).  The noise carries a tag
    because `opNoise` returns tagged arrays. -/

theorem npArray_arr [DropIm α] {t dt : DType} {dtype : Option DType} (hd : dtype.getD t = dt) (ht : t.rank ≤ dt.rank)
    (r : Rows α) :
    npArray (arr t r) dtype = if r.toData.ragged then .error .ValueError else .ok (dt, r.toData) := by
  rcases dtype with _ | d <;> simp only [Option.getD] at hd <;> subst hd
  · unfold npArray; rfl
  · simp [npArray, arr, castV_fun_of_le ht, Data.map_id]

/-- by `npolDefault_vec` = 1 and `npolDefault_row2` = 2 a held array comes back with its own number of rows -/
theorem validate_toData (c : Cls) (r : Rows α) :
    validate c none r.toData =
      if 1 ≤ r.len ∧ (c = .E → r.count = 1) then .ok (r.count, r) else .error .ValueError := by
  cases c <;> cases r <;>
    simp [validate, normE, normO, Rows.toData, Rows.len, Rows.count, polOfNat, Gen.Container.npolDefault_vec,
      Gen.Container.npolDefault_row2, Except.map, Nat.one_le_iff_ne_zero]
  case E.one xs => by_cases h : xs = [] <;> simp [h]

theorem wf_arr_iff (c : Cls) (dt : DType) (rows : Rows α) (nz : Option (Rows α)) :
    WF (⟨c, rows.count, dt, rows, nz⟩ : Sig α) ↔
      (rows.Rect ∧ ∀ n, nz = some n → n.Rect ∧ n.count = rows.count ∧ n.len = rows.len) ∧
        1 ≤ rows.len ∧ (c = .E → rows.count = 1) := by
  constructor
  · rintro ⟨hv, hn, -, he⟩
    rw [Rows.valid_iff] at hv
    refine ⟨⟨hv.1, fun n h => ?_⟩, hv.2, he⟩
    obtain ⟨v, hc, hl⟩ := hn n h
    exact ⟨((Rows.valid_iff n).1 v).1, hc, hl⟩
  · rintro ⟨⟨hr, hn⟩, hl, he⟩
    refine ⟨(Rows.valid_iff _).2 ⟨hr, hl⟩, fun n h => ?_, rfl, he⟩
    obtain ⟨r, hc, hl'⟩ := hn n h
    exact ⟨(Rows.valid_iff n).2 ⟨r, by rw [hl']; exact hl⟩, hc, hl'⟩

theorem prep_arr [DropIm α] {t dt : DType} {dtype : Option DType} (hd : dtype.getD t = dt) (ht : t.rank ≤ dt.rank)
    (rows : Rows α) (nz : Option (DType × Rows α))
    (hn : ∀ p, nz = some p → dtype.getD p.1 = dt ∧ p.1.rank ≤ dt.rank) :
    prep (arr t rows) (nz.map fun p => arr p.1 p.2) dtype =
      if rows.Rect ∧ ∀ n, nz.map (·.2) = some n → n.Rect ∧ n.count = rows.count ∧ n.len = rows.len then
        .ok (dt, rows.toData, nz.map (·.2.toData))
      else .error .ValueError := by
  have hid : (castV dt dt : α → α) = id := castV_fun_of_le (Nat.le_refl _)
  have hu : unifyDt dtype dt dt = dt := by cases dtype <;> simp_all [unifyDt, DType.max_self]
  unfold prep
  rw [npArray_arr hd ht]
  by_cases hr : rows.Rect
  · rw [if_neg (by rw [Rows.ragged_toData]; exact fun h => h hr)]
    rcases nz with _ | ⟨tn, n⟩
    · simp [hr]
    · simp only [Option.map_some, npArray_arr (hn _ rfl).1 (hn _ rfl).2]
      by_cases hrn : n.Rect
      · rw [if_neg (by rw [Rows.ragged_toData]; exact fun h => h hrn)]
        by_cases hs : n.count = rows.count ∧ n.len = rows.len <;>
          simp [Rows.shape_toData, hr, hrn, hs, hu, hid, Data.map_id]
      · rw [if_pos (by rwa [Rows.ragged_toData])]
        simp [hrn]
  · rw [if_pos (by rwa [Rows.ragged_toData])]
    simp [hr]

theorem construct_arr [DropIm α] (c : Cls) {t dt : DType} {dtype : Option DType} (hd : dtype.getD t = dt)
    (ht : t.rank ≤ dt.rank) (rows : Rows α) (nz : Option (DType × Rows α))
    (hn : ∀ p, nz = some p → dtype.getD p.1 = dt ∧ p.1.rank ≤ dt.rank) :
    construct c (arr t rows) (nz.map fun p => arr p.1 p.2) dtype =
      build ⟨c, rows.count, dt, rows, nz.map (·.2)⟩ := by
  rw [construct_eq, mkCls, prep_arr hd ht rows nz hn]
  by_cases hP : rows.Rect ∧ ∀ n, nz.map (·.2) = some n → n.Rect ∧ n.count = rows.count ∧ n.len = rows.len
  · simp only [if_pos hP, validate_toData]
    by_cases hQ : 1 ≤ rows.len ∧ (c = .E → rows.count = 1)
    · rw [build_of ((wf_arr_iff ..).2 ⟨hP, hQ⟩)]
      simp only [if_pos hQ]
      rcases nz with _ | ⟨tn, n⟩
      · rfl
      · obtain ⟨-, hc, hl⟩ := hP.2 n rfl
        simp only [Option.map_some, validate_toData, hc, hl, if_pos hQ]
    · rw [build_of_not fun w => hQ ((wf_arr_iff ..).1 w).2]
      simp only [if_neg hQ]
  · rw [build_of_not fun w => hP ((wf_arr_iff ..).1 w).1]
    simp only [if_neg hP]

theorem construct_arr_none [DropIm α] (c : Cls) (t : DType) (rows : Rows α) (nz : Option (Rows α)) :
    construct c (arr t rows) (nz.map (arr t)) none = build ⟨c, rows.count, t, rows, nz⟩ := by
  have h := construct_arr c (dtype := none) rfl (Nat.le_refl t.rank) rows (nz.map fun n => (t, n)) (by
    intro p hp; cases nz <;> cases hp; exact ⟨rfl, Nat.le_refl _⟩)
  simpa only [Option.map_map, Function.comp_def, Option.map_id', Option.getD_none] using h

/-- 0-d arrays: `signal[i]`, `noise[i]` on a one-row object; a scalar operand of an operator (any `py`) -/
theorem construct_scalar [DropIm α] (c : Cls) (py : Bool) (t : DType) (x : α) (nz : Option α) :
    construct c ⟨py, t, .s x⟩ (nz.map fun n => ⟨false, t, .s n⟩) none
      = .ok ⟨c, 1, t, .one [x], nz.map fun n => .one [n]⟩ := by
  have hid : (castV t t : α → α) = id := castV_fun_of_le (Nat.le_refl _)
  cases nz <;> cases c <;>
    simp [construct, mkE, mkO, prep, npArray, Data.ragged, unifyDt, Data.map, normE, normO, Data.shape,
      DType.max_self, polOfNat, Gen.Container.npolDefault_scalar, hid]

end OptiVerif.Container
