/-
`utils.dec2bin` (Model/Dec2bin.lean): the `while` loop, read without fuel as `binLoop`, writes the big-endian expansion
`bitsBE`; `valBE` and `weightedSum` are the two readings of the value of a digit string.
-/
import OptiVerif.Model.Dec2bin
import Mathlib.Tactic.Ring

namespace OptiVerif.Dec2bin

/-- `m`-digit big-endian binary expansion of `n` (its low `m` bits) -/
def bitsBE : Nat → Nat → List Nat
  | 0, _ => []
  | m+1, n => bitsBE m (n / 2) ++ [n % 2]

/-- value of a big-endian digit string: Horner form of `Σ bᵢ 2^(d-1-i)` -/
def valBE (bits : List Nat) : Nat := bits.foldl (fun acc b => 2 * acc + b) 0

/-- the weighted sum `Σ_{i<len} bᵢ 2^(len-1-i)` -/
def weightedSum (bits : List Nat) : Nat :=
  ((List.range bits.length).map (fun i => bits.getD i 0 * 2 ^ (bits.length - 1 - i))).sum

@[simp] theorem bitsBE_length (m n : Nat) : (bitsBE m n).length = m := by
  induction m generalizing n with
  | zero => rfl
  | succ m ih => simp [bitsBE, ih]

theorem bitsBE_zero (m : Nat) : bitsBE m 0 = List.replicate m 0 := by
  induction m with
  | zero => rfl
  | succ m ih => simp [bitsBE, ih, List.replicate_succ']

theorem bitsBE_mem (m n x : Nat) (h : x ∈ bitsBE m n) : x = 0 ∨ x = 1 := by
  induction m generalizing n with
  | zero => simp [bitsBE] at h
  | succ m ih =>
    rw [bitsBE, List.mem_append, List.mem_singleton] at h
    rcases h with h | rfl
    · exact ih _ h
    · exact Nat.mod_two_eq_zero_or_one n

theorem bitsBE_getElem (m n i : Nat) (h : i < m) :
    (bitsBE m n)[i]'(by simpa using h) = (n / 2 ^ (m - 1 - i)) % 2 := by
  induction m generalizing n with
  | zero => omega
  | succ m ih =>
    simp only [bitsBE]
    by_cases hi : i < m
    · rw [List.getElem_append_left (by simpa using hi), ih (n / 2) hi, Nat.div_div_eq_div_mul]
      have : m + 1 - 1 - i = (m - 1 - i) + 1 := by omega
      rw [this, Nat.pow_succ, Nat.mul_comm]
    · have him : i = m := by omega
      subst him
      simp

theorem valBE_append (a : List Nat) (b : Nat) : valBE (a ++ [b]) = 2 * valBE a + b := by
  simp [valBE, List.foldl_append]

theorem valBE_bitsBE (m n : Nat) : valBE (bitsBE m n) = n % 2 ^ m := by
  induction m generalizing n with
  | zero => simp [bitsBE, valBE, Nat.mod_one]
  | succ m ih =>
    rw [bitsBE, valBE_append, ih, Nat.pow_succ, Nat.mul_comm (2 ^ m) 2, Nat.mod_mul]
    omega

theorem foldl_valBE (a : Nat) (bits : List Nat) :
    bits.foldl (fun acc b => 2 * acc + b) a = a * 2 ^ bits.length + valBE bits := by
  induction bits generalizing a with
  | nil => simp [valBE]
  | cons b t ih =>
    rw [valBE, List.foldl_cons, List.foldl_cons, ih, ih (2 * 0 + b), List.length_cons, Nat.pow_succ]
    ring

theorem valBE_cons (b : Nat) (t : List Nat) : valBE (b :: t) = b * 2 ^ t.length + valBE t := by
  rw [valBE, List.foldl_cons, foldl_valBE]; simp

theorem weightedSum_cons (b : Nat) (t : List Nat) : weightedSum (b :: t) = b * 2 ^ t.length + weightedSum t := by
  -- the head term, then every index shifted by one
  simp only [weightedSum, List.length_cons, List.range_succ_eq_map, List.map_cons, List.map_map, List.sum_cons,
    Function.comp_def, List.getD_cons_zero, List.getD_cons_succ, Nat.add_sub_cancel, Nat.sub_zero, Nat.succ_eq_add_one,
    Nat.sub_sub, Nat.add_comm 1]

theorem valBE_eq_weightedSum (bits : List Nat) : valBE bits = weightedSum bits := by
  induction bits with
  | nil => rfl
  | cons b t ih => rw [valBE_cons, weightedSum_cons, ih]

theorem loop_zero (f : Nat) (i : Int) (b : List Nat) : loop f 0 i b = b := by
  cases f <;> simp [loop]

/-- `Model/Ppm.lean` transcribes the same loop (`Ppm.dec2binLoop_eq`); this copy keeps C12's model and translated table
    out of C19's imports -/
def binLoop : Nat → List Nat → Nat → List Nat
  | 0, b, _ => b
  | i+1, b, num => if num > 0 then binLoop i (b.set i (num % 2)) (num / 2) else b

/-- started with `m` zeros in front of the low digits `suf` already written -/
theorem binLoop_spec (m num : Nat) (suf : List Nat) :
    binLoop m (List.replicate m 0 ++ suf) num = bitsBE m num ++ suf := by
  induction m generalizing num suf with
  | zero => rfl
  | succ m ih =>
    rw [binLoop]
    split
    · have e : (List.replicate (m + 1) 0 ++ suf).set m (num % 2) = List.replicate m 0 ++ (num % 2 :: suf) := by
        rw [List.replicate_succ', List.append_assoc, List.set_append_right _ _ (by simp)]
        simp
      rw [e, ih, bitsBE, List.append_assoc, List.singleton_append]
    · obtain rfl : num = 0 := by omega
      rw [bitsBE_zero]

/-- `i ≥ 0` is `i + 1` being a successor, and the fuel is not what stops the loop -/
theorem loop_eq_binLoop (m : Nat) : ∀ (f num : Nat) (b : List Nat), m ≤ f →
    loop f num ((m : Int) - 1) b = binLoop m b num := by
  induction m with
  | zero =>
    intro f num b _
    cases f <;> simp [loop, binLoop]
  | succ m ih =>
    intro f num b hf
    obtain ⟨f, rfl⟩ : ∃ g, f = g + 1 := ⟨f - 1, by omega⟩
    have e1 : ((m + 1 : Nat) : Int) - 1 - 1 = (m : Int) - 1 := by omega
    have e2 : (((m + 1 : Nat) : Int) - 1).toNat = m := by omega
    rw [loop, binLoop, e1, e2, ih f _ _ (by omega)]
    by_cases h : num > 0
    · rw [if_pos ⟨h, by omega⟩, if_pos h]
    · rw [if_neg (fun hh => h hh.1), if_neg h]

theorem loop_spec (m f num : Nat) (suf : List Nat) (hf : m ≤ f) :
    loop f num ((m : Int) - 1) (List.replicate m 0 ++ suf) = bitsBE m num ++ suf := by
  rw [loop_eq_binLoop m f num _ hf, binLoop_spec]

theorem dec2binFuel_eq (fuel : Nat) (v : Int) (d : Nat) :
    dec2binFuel fuel v (d : Int) =
      if v > 2 ^ d - 1 then .error .ValueError
      else .ok (loop fuel v.toNat ((d : Int) - 1) (List.replicate d 0)) := by
  unfold dec2binFuel
  have h1 : ¬ ((d : Int) < 0) := by omega
  rw [if_neg h1]
  simp only [Int.toNat_natCast]

theorem dec2bin_eq (v : Int) (d : Nat) :
    dec2bin v (d : Int) =
      if v > 2 ^ d - 1 then .error .ValueError
      else .ok (loop d v.toNat ((d : Int) - 1) (List.replicate d 0)) := by
  rw [dec2bin, Int.toNat_natCast, dec2binFuel_eq]

theorem dec2binFuel_eq_dec2bin (v : Int) (d fuel : Nat) (hf : d ≤ fuel) :
    dec2binFuel fuel v (d : Int) = dec2bin v (d : Int) := by
  rw [dec2bin_eq, dec2binFuel_eq, loop_eq_binLoop d fuel _ _ hf, loop_eq_binLoop d d _ _ le_rfl]

theorem dec2binFuel_ok (v d fuel : Nat) (h : v < 2 ^ d) (hf : d ≤ fuel) :
    dec2binFuel fuel (v : Int) (d : Int) = .ok (bitsBE d v) := by
  have hv : ¬ ((v : Int) > 2 ^ d - 1) := by
    have : ((v : Int)) < 2 ^ d := by exact_mod_cast h
    omega
  have := loop_spec d fuel v [] hf
  rw [dec2binFuel_eq, if_neg hv]
  simpa using this

end OptiVerif.Dec2bin
