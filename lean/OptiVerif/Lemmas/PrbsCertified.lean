/- `decide +kernel` = kernel evaluation; axioms: `propext` only. -/
import OptiVerif.Lemmas.PrbsPeriod

namespace OptiVerif.PrbsCert

/-- order, second tap, primes of `2^n - 1`; `C04.documented`, `C04.primes_complete` project it -/
def table : List (Nat × Nat × List Nat) :=
  [(7, 6, [127]), (9, 5, [7, 73]), (11, 9, [23, 89]), (15, 14, [7, 31, 151]), (20, 3, [3, 5, 11, 31, 41]),
   (23, 18, [47, 178481]), (31, 28, [2147483647])]

theorem table_ok : (table.all fun r => cycleOK r.1 r.2.1 r.2.2) = true := by decide +kernel

/-- `2^31 - 1` by Lucas: witness 7, `2^31 - 2 = 2·3²·7·11·31·151·331` -/
theorem factors_prime : ((table.flatMap (·.2.2)).all fun q =>
    if q = 2147483647 then lucasOK q 7 [2, 3, 7, 11, 31, 151, 331] else isPrimeB q) = true := by
  decide +kernel

theorem table_sound (n t : Nat) (qs : List Nat) (h : (n, t, qs) ∈ table) :
    (∀ p, p.Prime → p ∣ 2^n - 1 → p ∈ qs) ∧
    ∀ s, s ≠ 0 → s < 2^n → Function.minimalPeriod (step n t) s = 2^n - 1 := by
  -- explicit row: unification would unfold `cycleOK`
  refine cycleOK_sound n t qs (List.all_eq_true.mp table_ok (n, t, qs) h) fun q hq => ?_
  have := List.all_eq_true.mp factors_prime q (List.mem_flatMap.mpr ⟨_, h, hq⟩)
  split at this
  · exact lucasOK_sound _ _ _ this
  · exact isPrimeB_sound q this

end OptiVerif.PrbsCert
