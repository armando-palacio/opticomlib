/-
The coupled-mode system of the FBG model in ℂ,  R' = j(σR + κS),  S' = −j(σS + κR)  on [a, b] with σ, κ real functions of z, and
the code's boundary condition R(b) = 1, S(b) = 0 (`solve_ivp` runs from z = ½ down to −½).
`Solves` is one frequency bin (one `Coef`); the model's `rhsAll` is n uncoupled copies of it.
Every closed form is `closed_form` (σ/κ constant) followed by uniqueness, and a reflectivity needs S(a) only, because
|R|² − |S|² is conserved.
-/
import Mathlib.Analysis.InnerProductSpace.Calculus
import Mathlib.Analysis.ODE.ExistUnique
import Mathlib.Analysis.SpecialFunctions.Trigonometric.DerivHyp

namespace OptiVerif.FbgOde
open Set Complex

/-- `(R, S)` solves the coupled-mode system on `[a, b]` (one-sided derivatives at the ends) -/
structure Solves (σ κ : ℝ → ℝ) (a b : ℝ) (R S : ℝ → ℂ) : Prop where
  dR : ∀ z ∈ Icc a b, HasDerivWithinAt R (I * ((σ z : ℂ) * R z + (κ z : ℂ) * S z)) (Icc a b) z
  dS : ∀ z ∈ Icc a b, HasDerivWithinAt S (-I * ((σ z : ℂ) * S z + (κ z : ℂ) * R z)) (Icc a b) z

/-- d/dz (|R|² − |S|²) along a solution; the one place where σ, κ being real is used -/
theorem inner_rhs_cancel (σ κ : ℝ) (r s : ℂ) :
    2 * inner ℝ r (I * ((σ : ℂ) * r + (κ : ℂ) * s)) - 2 * inner ℝ s (-I * ((σ : ℂ) * s + (κ : ℂ) * r)) = 0 := by
  simp only [Complex.inner, mul_re, mul_im, add_re, add_im, I_re, ofReal_im, conj_re, conj_im, neg_re, neg_im]
  ring

variable {σ κ : ℝ → ℝ} {a b : ℝ} {R S : ℝ → ℂ}

theorem conservation (h : Solves σ κ a b R S) :
    ∀ z ∈ Icc a b, ‖R z‖ ^ 2 - ‖S z‖ ^ 2 = ‖R a‖ ^ 2 - ‖S a‖ ^ 2 := by
  have hd : ∀ z ∈ Icc a b, HasDerivWithinAt (fun z => ‖R z‖ ^ 2 - ‖S z‖ ^ 2) 0 (Icc a b) z := by
    intro z hz
    have := (h.dR z hz).norm_sq.sub (h.dS z hz).norm_sq
    rwa [inner_rhs_cancel] at this
  apply constant_of_has_deriv_right_zero
  · intro z hz
    exact (hd z hz).continuousWithinAt
  · intro z hz
    exact (hd z ⟨hz.1, hz.2.le⟩).mono_of_mem_nhdsWithin (Icc_mem_nhdsGE_of_mem hz)

theorem norm_sq_R (h : Solves σ κ a b R S) (hab : a ≤ b) (hR : R b = 1) (hS : S b = 0) :
    ∀ z ∈ Icc a b, ‖R z‖ ^ 2 = 1 + ‖S z‖ ^ 2 := by
  intro z hz
  have := (conservation h z hz).trans (conservation h b ⟨hab, le_rfl⟩).symm
  rw [hR, hS, norm_one, norm_zero] at this
  linarith

theorem norm_S_lt (h : Solves σ κ a b R S) (hab : a ≤ b) (hR : R b = 1) (hS : S b = 0) :
    ∀ z ∈ Icc a b, ‖S z‖ < ‖R z‖ := fun z hz =>
  lt_of_pow_lt_pow_left₀ 2 (norm_nonneg _) (by rw [norm_sq_R h hab hR hS z hz]; exact lt_one_add _)

theorem passive (h : Solves σ κ a b R S) (hab : a ≤ b) (hR : R b = 1) (hS : S b = 0) :
    ∀ z ∈ Icc a b, ‖S z / R z‖ < 1 := fun z hz => by
  have hlt := norm_S_lt h hab hR hS z hz
  rwa [norm_div, div_lt_one ((norm_nonneg _).trans_lt hlt)]

theorem reflectivity_eq (h : Solves σ κ a b R S) (hab : a ≤ b) (hR : R b = 1) (hS : S b = 0) :
    ∀ z ∈ Icc a b, ‖S z / R z‖ ^ 2 = ‖S z‖ ^ 2 / (1 + ‖S z‖ ^ 2) := by
  intro z hz
  rw [norm_div, div_pow, norm_sq_R h hab hR hS z hz]

/-- the right-hand side as a vector field on ℂ × ℂ, the form Mathlib's uniqueness theorem (Gronwall) wants -/
noncomputable def field (σ κ : ℝ → ℝ) (z : ℝ) (x : ℂ × ℂ) : ℂ × ℂ :=
  (I * ((σ z : ℂ) * x.1 + (κ z : ℂ) * x.2), -I * ((σ z : ℂ) * x.2 + (κ z : ℂ) * x.1))

theorem field_lipschitz (Mσ Mκ z : ℝ) (hσ : |σ z| ≤ Mσ) (hκ : |κ z| ≤ Mκ) :
    LipschitzWith (Real.toNNReal (Mσ + Mκ)) (field σ κ z) := by
  -- `field σ κ z` is linear and each component of its value at `w` is at most `|σ| ‖w‖ + |κ| ‖w‖`
  refine LipschitzWith.of_dist_le_mul fun x y => ?_
  have hM : 0 ≤ Mσ + Mκ := add_nonneg ((abs_nonneg _).trans hσ) ((abs_nonneg _).trans hκ)
  have key : ∀ u v : ℂ, ‖u‖ ≤ ‖x - y‖ → ‖v‖ ≤ ‖x - y‖ → ‖(σ z : ℂ) * u + (κ z : ℂ) * v‖ ≤ (Mσ + Mκ) * ‖x - y‖ := by
    intro u v hu hv
    calc ‖(σ z : ℂ) * u + (κ z : ℂ) * v‖ ≤ |σ z| * ‖u‖ + |κ z| * ‖v‖ := by
          simpa using norm_add_le ((σ z : ℂ) * u) ((κ z : ℂ) * v)
      _ ≤ Mσ * ‖x - y‖ + Mκ * ‖x - y‖ :=
          add_le_add (mul_le_mul hσ hu (norm_nonneg _) ((abs_nonneg _).trans hσ))
            (mul_le_mul hκ hv (norm_nonneg _) ((abs_nonneg _).trans hκ))
      _ = (Mσ + Mκ) * ‖x - y‖ := (add_mul _ _ _).symm
  rw [Real.coe_toNNReal _ hM, dist_eq_norm, dist_eq_norm]
  refine max_le ?_ ?_
  · rw [show (field σ κ z x - field σ κ z y).1 = I * ((σ z : ℂ) * (x - y).1 + (κ z : ℂ) * (x - y).2) by
      simp only [field, Prod.fst_sub, Prod.snd_sub]; ring, norm_mul, norm_I, one_mul]
    exact key _ _ (norm_fst_le _) (norm_snd_le _)
  · rw [show (field σ κ z x - field σ κ z y).2 = -I * ((σ z : ℂ) * (x - y).2 + (κ z : ℂ) * (x - y).1) by
      simp only [field, Prod.fst_sub, Prod.snd_sub]; ring, norm_mul, norm_neg, norm_I, one_mul]
    exact key _ _ (norm_snd_le _) (norm_fst_le _)

theorem unique {R' S' : ℝ → ℂ} (Mσ Mκ : ℝ) (hσ : ∀ z ∈ Icc a b, |σ z| ≤ Mσ) (hκ : ∀ z ∈ Icc a b, |κ z| ≤ Mκ)
    (h1 : Solves σ κ a b R S) (h2 : Solves σ κ a b R' S') (hR : R b = R' b) (hS : S b = S' b) :
    ∀ z ∈ Icc a b, R z = R' z ∧ S z = S' z := by
  intro z hz
  have pair : ∀ {P Q : ℝ → ℂ}, Solves σ κ a b P Q → ∀ t ∈ Icc a b,
      HasDerivWithinAt (fun t => (P t, Q t)) (field σ κ t (P t, Q t)) (Icc a b) t :=
    fun h t ht => (h.dR t ht).prodMk (h.dS t ht)
  -- `_left`: the variant with the initial condition at the right end `b`, where the code starts
  have key := ODE_solution_unique_of_mem_Icc_left (v := field σ κ) (s := fun _ => univ) (K := Real.toNNReal (Mσ + Mκ))
    (f := fun t => (R t, S t)) (g := fun t => (R' t, S' t)) (a := a) (b := b)
    (fun t ht => (field_lipschitz Mσ Mκ t (hσ t ⟨ht.1.le, ht.2⟩) (hκ t ⟨ht.1.le, ht.2⟩)).lipschitzOnWith)
    (fun t ht => (pair h1 t ht).continuousWithinAt)
    (fun t ht => (pair h1 t ⟨ht.1.le, ht.2⟩).mono_of_mem_nhdsWithin (Icc_mem_nhdsLE_of_mem ht))
    (fun _ _ => mem_univ _)
    (fun t ht => (pair h2 t ht).continuousWithinAt)
    (fun t ht => (pair h2 t ⟨ht.1.le, ht.2⟩).mono_of_mem_nhdsWithin (Icc_mem_nhdsLE_of_mem ht))
    (fun _ _ => mem_univ _)
    (by simp [hR, hS])
  exact Prod.mk.inj (key hz)

/-- cosh, sinh (ε = 1), cos, sin (ε = −1) and 1, id (ε = 0): the stop band, the pass band and the band edge differ only in which
    pair they use, so the chain rule and the algebra are done once, for a pair -/
structure CSPair (ε : ℝ) (C Sn : ℝ → ℝ) : Prop where
  dC : ∀ x, HasDerivAt C (ε * Sn x) x
  dSn : ∀ x, HasDerivAt Sn (C x) x
  C0 : C 0 = 1
  Sn0 : Sn 0 = 0

theorem csPair_hyp : CSPair 1 Real.cosh Real.sinh :=
  ⟨fun x => by simpa using Real.hasDerivAt_cosh x, Real.hasDerivAt_sinh, Real.cosh_zero, Real.sinh_zero⟩

theorem csPair_trig : CSPair (-1) Real.cos Real.sin :=
  ⟨fun x => by simpa using Real.hasDerivAt_cos x, Real.hasDerivAt_sin, Real.cos_zero, Real.sin_zero⟩

theorem csPair_lin : CSPair 0 (fun _ => 1) id :=
  ⟨fun x => by simpa using hasDerivAt_const x (1 : ℝ), hasDerivAt_id, rfl, rfl⟩

variable {ε : ℝ} {C Sn u γ : ℝ → ℝ}

theorem closed_form (c1 c2 : ℝ) (hp : CSPair ε C Sn) (hε : c2 * c2 - c1 * c1 = ε)
    (hu : ∀ z ∈ Icc a b, HasDerivWithinAt u (-γ z) (Icc a b) z) :
    Solves (fun z => c1 * γ z) (fun z => c2 * γ z) a b
      (fun z => ((C (u z) : ℝ) : ℂ) - I * ((c1 * Sn (u z) : ℝ) : ℂ))
      (fun z => I * ((c2 * Sn (u z) : ℝ) : ℂ)) := by
  subst hε
  constructor
  · intro z hz
    have := ((hp.dC (u z)).comp_hasDerivWithinAt z (hu z hz)).ofReal_comp.sub
      ((((hp.dSn (u z)).comp_hasDerivWithinAt z (hu z hz)).const_mul c1).ofReal_comp.const_mul I)
    refine this.congr_deriv ?_
    push_cast
    -- u' = −γ (u(z) = ∫_z^b γ: the code integrates from b down); after j·j = −1 the R-equation is exactly ε = c₂² − c₁²
    linear_combination (-(((c2 : ℂ) * c2 - c1 * c1) * Sn (u z) * γ z)) * I_mul_I
  · intro z hz
    have := (((hp.dSn (u z)).comp_hasDerivWithinAt z (hu z hz)).const_mul c2).ofReal_comp.const_mul I
    refine this.congr_deriv ?_
    push_cast
    ring

theorem abs_mul_le {s : Set ℝ} {B : ℝ} (hγ : ∀ z ∈ s, |γ z| ≤ B) (c : ℝ) : ∀ z ∈ s, |c * γ z| ≤ |c| * B := fun z hz => by
  rw [abs_mul]
  exact mul_le_mul_of_nonneg_left (hγ z hz) (abs_nonneg _)

theorem eq_closed_form (c1 c2 B : ℝ) (hp : CSPair ε C Sn) (hε : c2 * c2 - c1 * c1 = ε)
    (hu : ∀ z ∈ Icc a b, HasDerivWithinAt u (-γ z) (Icc a b) z) (hub : u b = 0) (hγ : ∀ z ∈ Icc a b, |γ z| ≤ B)
    (h : Solves (fun z => c1 * γ z) (fun z => c2 * γ z) a b R S) (hR : R b = 1) (hS : S b = 0) :
    ∀ z ∈ Icc a b, R z = (C (u z) : ℂ) - I * ((c1 * Sn (u z) : ℝ) : ℂ) ∧ S z = I * ((c2 * Sn (u z) : ℝ) : ℂ) :=
  unique _ _ (abs_mul_le hγ c1) (abs_mul_le hγ c2) h (closed_form c1 c2 hp hε hu) (by simp [hR, hub, hp.C0, hp.Sn0])
    (by simp [hS, hub, hp.Sn0])

theorem norm_sq_I_mul (y : ℝ) : ‖I * (y : ℂ)‖ ^ 2 = y ^ 2 := by
  rw [norm_mul, norm_I, one_mul, Complex.norm_real, Real.norm_eq_abs, sq_abs]

theorem hasDeriv_phase (κ0 : ℝ) {p P : ℝ → ℝ} (hP : ∀ z ∈ Icc a b, HasDerivWithinAt P (p z) (Icc a b) z) :
    ∀ z ∈ Icc a b, HasDerivWithinAt (fun z => κ0 * (P b - P z)) (-(κ0 * p z)) (Icc a b) z := fun z hz => by
  simpa using ((hasDerivWithinAt_const z _ (P b)).sub (hP z hz)).const_mul κ0

/-- `P b - P a` is ∫ₐᵇ p, and `hp` holds e.g. for continuous p -/
theorem bragg_reflectivity (κ0 B : ℝ) (p P : ℝ → ℝ)
    (hP : ∀ z ∈ Icc a b, HasDerivWithinAt P (p z) (Icc a b) z) (hp : ∀ z ∈ Icc a b, |p z| ≤ B) (hab : a ≤ b)
    (h : Solves (fun _ => 0) (fun z => κ0 * p z) a b R S) (hR : R b = 1) (hS : S b = 0) :
    S a / R a = I * (Real.tanh (κ0 * (P b - P a)) : ℂ) ∧
    ‖S a / R a‖ ^ 2 = Real.tanh (κ0 * (P b - P a)) ^ 2 := by
  have hu := eq_closed_form 0 1 (|κ0| * B) csPair_hyp (by norm_num) (hasDeriv_phase κ0 hP) (by simp)
    (abs_mul_le hp κ0) (by simpa using h) hR hS a ⟨le_rfl, hab⟩
  have e : S a / R a = I * (Real.tanh (κ0 * (P b - P a)) : ℂ) := by
    rw [hu.1, hu.2, Real.tanh_eq_sinh_div_cosh]
    simp [mul_div_assoc]
  exact ⟨e, by rw [e, norm_sq_I_mul]⟩

theorem hasDeriv_lin (g z : ℝ) : HasDerivWithinAt (fun z => g * (b - z)) (-g) (Icc a b) z := by
  simpa using ((hasDerivWithinAt_const z _ b).sub (hasDerivWithinAt_id z _)).const_mul g

/-- g = √|k² − d²| off the band edge, g = 1 on it.  Only S(a) = j (k/g) Sn(g(b − a)) is needed, by `reflectivity_eq`. -/
theorem const_reflectivity (d k g : ℝ) (hp : CSPair ε C Sn) (hg : g ≠ 0) (hε : k ^ 2 - d ^ 2 = ε * g ^ 2) (hab : a ≤ b)
    (h : Solves (fun _ => d) (fun _ => k) a b R S) (hR : R b = 1) (hS : S b = 0) :
    ‖S a / R a‖ ^ 2 = (k * Sn (g * (b - a))) ^ 2 / (g ^ 2 + (k * Sn (g * (b - a))) ^ 2) := by
  have hcc : k / g * (k / g) - d / g * (d / g) = ε := by
    rw [div_mul_div_comm, div_mul_div_comm, ← sub_div, ← sq, ← sq, ← sq, hε, mul_div_cancel_right₀ _ (pow_ne_zero 2 hg)]
  have h' : Solves (fun _ => d / g * g) (fun _ => k / g * g) a b R S := by
    simpa only [div_mul_cancel₀ _ hg] using h
  have ha : a ∈ Icc a b := ⟨le_rfl, hab⟩
  rw [reflectivity_eq h hab hR hS a ha,
    (eq_closed_form (d / g) (k / g) |g| hp hcc (fun z _ => hasDeriv_lin g z) (by simp) (fun _ _ => le_rfl) h' hR hS
      a ha).2,
    norm_sq_I_mul, div_mul_eq_mul_div, div_pow, one_add_div (pow_ne_zero 2 hg),
    div_div_div_cancel_right₀ (pow_ne_zero 2 hg)]

theorem sq_div_add_sq (k t w : ℝ) (hk : k ≠ 0) : (k * t) ^ 2 / (w + (k * t) ^ 2) = t ^ 2 / (w / k ^ 2 + t ^ 2) := by
  have hk2 := pow_ne_zero 2 hk
  rw [mul_pow, ← mul_div_mul_left (t ^ 2) _ hk2, mul_add, mul_div_cancel₀ _ hk2]

theorem uniform_stopband (d k : ℝ) (hdk : |d| < k) (hab : a ≤ b)
    (h : Solves (fun _ => d) (fun _ => k) a b R S) (hR : R b = 1) (hS : S b = 0) :
    ‖S a / R a‖ ^ 2 = Real.sinh (Real.sqrt (k ^ 2 - d ^ 2) * (b - a)) ^ 2
      / (Real.cosh (Real.sqrt (k ^ 2 - d ^ 2) * (b - a)) ^ 2 - d ^ 2 / k ^ 2) := by
  have hk : k ≠ 0 := ((abs_nonneg d).trans_lt hdk).ne'
  have hpos : 0 < k ^ 2 - d ^ 2 := sub_pos.mpr (sq_lt_sq' (neg_lt_of_abs_lt hdk) (lt_of_abs_lt hdk))
  rw [const_reflectivity d k _ csPair_hyp (Real.sqrt_pos.mpr hpos).ne' (by rw [Real.sq_sqrt hpos.le, one_mul]) hab h hR hS,
    sq_div_add_sq k _ _ hk, Real.sq_sqrt hpos.le, Real.cosh_sq, sub_div, div_self (pow_ne_zero 2 hk)]
  ring

theorem uniform_passband_raw (d k : ℝ) (hk : 0 < k) (hdk : k < |d|) (hab : a ≤ b)
    (h : Solves (fun _ => d) (fun _ => k) a b R S) (hR : R b = 1) (hS : S b = 0) :
    ‖S a / R a‖ ^ 2 = (k * Real.sin (Real.sqrt (d ^ 2 - k ^ 2) * (b - a))) ^ 2
      / (d ^ 2 - k ^ 2 + (k * Real.sin (Real.sqrt (d ^ 2 - k ^ 2) * (b - a))) ^ 2) := by
  have hpos : 0 < d ^ 2 - k ^ 2 := sub_pos.mpr (sq_lt_sq.mpr (by rwa [abs_of_pos hk]))
  rw [const_reflectivity d k _ csPair_trig (Real.sqrt_pos.mpr hpos).ne' (by rw [Real.sq_sqrt hpos.le, neg_one_mul, neg_sub]) hab h hR hS,
    Real.sq_sqrt hpos.le]

theorem uniform_passband (d k : ℝ) (hk : 0 < k) (hdk : k < |d|) (hab : a ≤ b)
    (h : Solves (fun _ => d) (fun _ => k) a b R S) (hR : R b = 1) (hS : S b = 0) :
    ‖S a / R a‖ ^ 2 = Real.sin (Real.sqrt (d ^ 2 - k ^ 2) * (b - a)) ^ 2
      / (d ^ 2 / k ^ 2 - Real.cos (Real.sqrt (d ^ 2 - k ^ 2) * (b - a)) ^ 2) := by
  rw [uniform_passband_raw d k hk hdk hab h hR hS, sq_div_add_sq k _ _ hk.ne', Real.cos_sq', sub_div,
    div_self (pow_ne_zero 2 hk.ne')]
  ring

theorem uniform_edge (d k : ℝ) (hdk : d * d = k * k) (hab : a ≤ b)
    (h : Solves (fun _ => d) (fun _ => k) a b R S) (hR : R b = 1) (hS : S b = 0) :
    ‖S a / R a‖ ^ 2 = (k * (b - a)) ^ 2 / (1 + (k * (b - a)) ^ 2) := by
  simpa using const_reflectivity d k 1 csPair_lin one_ne_zero (by linear_combination -hdk) hab h hR hS

end OptiVerif.FbgOde
