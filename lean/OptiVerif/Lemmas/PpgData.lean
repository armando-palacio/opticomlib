/-
Helper lemmas for C20: the blocks of `set_data`/`get_data` and what executing them does to the instrument memory.
-/
import OptiVerif.Lemmas.Ppg
import OptiVerif.Lemmas.Guard

namespace OptiVerif.Ppg
open OptiVerif.Gen.PpgLimits

/-- the payload of a command list: the bits of its data blocks in order -/
def payload : List Command → List Nat
  | [] => []
  | .data _ _ _ _ bits :: cs => bits ++ payload cs
  | _ :: cs => payload cs

/-- data blocks at consecutive addresses starting at `a`, all for channel `ch` -/
def Consecutive (ch : Int) : Int → List Command → Prop
  | _, [] => True
  | a, .data ch' addr n _ _ :: cs => ch' = ch ∧ addr = a ∧ Consecutive ch (a + n) cs
  | _, _ :: _ => False

/-- what the driver reads back from a stored value: any non-zero cell is the character `1` -/
def norm (b : Nat) : Nat := if b = 0 then 0 else 1

theorem chunks_small {α} {m : Nat} {xs : List α} (h : xs.length ≤ m) : chunks m xs = [xs] := by
  rw [chunks, dif_pos (Or.inl h)]

theorem chunks_big {α} {m : Nat} {xs : List α} (h : m < xs.length) (hm : 0 < m) :
    chunks m xs = xs.take m :: chunks m (xs.drop m) := by
  rw [chunks, dif_neg (by omega)]

/-- the functional induction principle of `chunks`, with its side conditions read for `0 < m` -/
theorem chunks_induction {α} {m : Nat} (hm : 0 < m) {P : List α → Prop}
    (small : ∀ xs, xs.length ≤ m → P xs) (big : ∀ xs, m < xs.length → P (xs.drop m) → P xs) : ∀ xs, P xs := by
  intro xs
  induction xs using chunks.induct m with
  | case1 xs h => exact small xs (by omega)
  | case2 xs h ih => exact big xs (by omega) ih

theorem chunks_flatten {α} {m : Nat} (hm : 0 < m) (xs : List α) : (chunks m xs).flatten = xs := by
  induction xs using chunks_induction hm with
  | small xs h => rw [chunks_small h, List.flatten_singleton]
  | big xs h ih => rw [chunks_big h hm, List.flatten_cons, ih, List.take_append_drop]

theorem chunks_length_le {α} {m : Nat} (hm : 0 < m) (xs : List α) : ∀ c ∈ chunks m xs, c.length ≤ m := by
  induction xs using chunks_induction hm with
  | small xs h => rw [chunks_small h]; simpa using h
  | big xs h ih =>
    rw [chunks_big h hm]
    simp only [List.mem_cons, forall_eq_or_imp, List.length_take]
    exact ⟨by omega, ih⟩

/-- a multiple of the block size gets no trailing empty block -/
theorem chunks_nonempty {α} {m : Nat} (hm : 0 < m) (xs : List α) (hne : xs ≠ []) : ∀ c ∈ chunks m xs, c ≠ [] := by
  induction xs using chunks_induction hm with
  | small xs h => rw [chunks_small h]; simpa using hne
  | big xs h ih =>
    rw [chunks_big h hm]
    simp only [List.mem_cons, forall_eq_or_imp]
    refine ⟨List.length_pos_iff.mp ?_, ih (List.length_pos_iff.mp ?_)⟩
    · rw [List.length_take]; omega
    · rw [List.length_drop]; omega

theorem chunks_count {α} {m : Nat} (hm : 0 < m) (xs : List α) :
    (chunks m xs).length = if xs.length ≤ m then 1 else (xs.length + m - 1) / m := by
  induction xs using chunks_induction hm with
  | small xs h => rw [chunks_small h, if_pos h]; rfl
  | big xs h ih =>
    rw [chunks_big h hm, List.length_cons, ih, List.length_drop, if_neg (not_le.mpr h)]
    have e : xs.length + m - 1 = (xs.length - m + m - 1) + m := by omega
    rw [e, Nat.add_div_right _ hm]
    split_ifs with h2
    · rw [Nat.div_eq_of_lt_le (k := 1) (by omega) (by omega)]
    · rfl

theorem ndigits_le_iff {n k : Nat} (hk : 0 < k) : ndigits n ≤ k ↔ n < 10 ^ k :=
  Nat.length_toDigits_le_iff (by decide) hk

/-- `10 ^ 9`: the digit count `k` of the header is a single character -/
theorem header_ok {n : Nat} (h : n < 10 ^ 9) : HeaderOK (ndigits n) n := by
  have hp : 0 < ndigits n := Nat.length_toDigits_pos
  refine ⟨hp, (ndigits_le_iff (by decide)).mpr h, (ndigits_le_iff hp).mp le_rfl, ?_⟩
  by_cases h1 : ndigits n = 1
  · exact Or.inl h1
  · refine Or.inr (Nat.le_of_not_lt fun hlt => ?_)
    have := (ndigits_le_iff (by omega)).mpr hlt
    omega

theorem dataCmds_payload (ch : Int) : ∀ (cks : List (List Nat)) (a : Int), payload (dataCmds ch a cks) = cks.flatten
  | [], _ => rfl
  | c :: cks, a => by
    simp only [dataCmds, payload, List.flatten_cons, dataCmds_payload ch cks]

theorem dataCmds_consecutive (ch : Int) : ∀ (cks : List (List Nat)) (a : Int), Consecutive ch a (dataCmds ch a cks)
  | [], _ => trivial
  | c :: cks, a => ⟨rfl, rfl, dataCmds_consecutive ch cks _⟩

theorem dataCmds_length (ch : Int) : ∀ (cks : List (List Nat)) (a : Int), (dataCmds ch a cks).length = cks.length
  | [], _ => rfl
  | _ :: cks, _ => congrArg (· + 1) (dataCmds_length ch cks _)

theorem dataCmds_mem (ch : Int) : ∀ (cks : List (List Nat)) (a : Int) (c : Command), c ∈ dataCmds ch a cks →
    ∃ addr, ∃ b ∈ cks, c = .data ch addr b.length (ndigits b.length) b ∧ a ≤ addr ∧
      addr + (b.length : Int) ≤ a + (cks.flatten.length : Int)
  | [], _, c, h => by simp [dataCmds] at h
  | b :: cks, a, c, h => by
    simp only [dataCmds, List.mem_cons] at h
    simp only [List.flatten_cons, List.length_append, Nat.cast_add]
    rcases h with rfl | h
    · exact ⟨a, b, List.mem_cons_self, rfl, le_refl _, by omega⟩
    · obtain ⟨addr, b', hb, rfl, h1, h2⟩ := dataCmds_mem ch cks _ c h
      exact ⟨addr, b', List.mem_cons_of_mem _ hb, rfl, by omega, by omega⟩

theorem counts_sum (n : Nat) : (counts n).sum = n := by
  unfold counts
  rw [gen_chunk]
  split_ifs with h h2
  · simp only [List.sum_append, List.sum_replicate_nat, List.sum_cons, List.sum_nil]; omega
  · simp only [List.sum_append, List.sum_replicate_nat, List.sum_nil]; omega
  · simp

theorem counts_mem {n c : Nat} (hc : c ∈ counts n) : c ≤ 1024 ∧ (1 ≤ n → 1 ≤ c) := by
  unfold counts at hc
  rw [gen_chunk] at hc
  split_ifs at hc with h h2
  · rcases List.mem_append.mp hc with hc | hc
    · have := List.eq_of_mem_replicate hc; omega
    · obtain rfl := List.mem_singleton.mp hc; omega
  · rw [List.append_nil] at hc
    have := List.eq_of_mem_replicate hc; omega
  · obtain rfl := List.mem_singleton.mp hc; omega

theorem dataQueries_mem (ch : Int) : ∀ (ns : List Nat) (a : Int) (c : Command), c ∈ dataQueries ch a ns →
    ∃ addr, ∃ n ∈ ns, c = .dataQ ch addr n
  | [], _, c, h => by simp [dataQueries] at h
  | n :: ns, a, c, h => by
    simp only [dataQueries, List.mem_cons] at h
    rcases h with rfl | h
    · exact ⟨a, n, List.mem_cons_self, rfl⟩
    · obtain ⟨addr, n', hn, rfl⟩ := dataQueries_mem ch ns _ c h
      exact ⟨addr, n', List.mem_cons_of_mem _ hn, rfl⟩

theorem norm_bit (x : Int) : norm (bit x) = bit x := by
  unfold norm bit
  split_ifs <;> simp_all

theorem parse_bitChar (b : Nat) : (if bitChar b = '1' then 1 else 0) = norm b := by
  unfold bitChar norm
  by_cases h : b = 0
  · rw [if_pos h, if_pos h, if_neg (by decide)]
  · rw [if_neg h, if_neg h, if_pos rfl]

theorem parseReply_reply (bits : List Nat) (h : bits.length < 10 ^ 9) :
    parseReply (reply bits) = .ok (bits.map norm) := by
  -- the ten digit characters: `int(c)` gives the digit back
  have h10 : ∀ k : Fin 10, (Nat.digitChar k.val).isDigit = true ∧ (Nat.digitChar k.val).toNat - '0'.toNat = k.val := by
    decide
  obtain ⟨hi, hn⟩ := h10 ⟨ndigits bits.length, Nat.lt_succ_of_le ((ndigits_le_iff (by decide)).mpr h)⟩
  -- `b[k+2:]` drops `#`, the digit `k` and the `k` digits of the length
  have e : List.drop (ndigits bits.length + 2)
      ('#' :: Nat.digitChar (ndigits bits.length) :: (Nat.toDigits 10 bits.length ++ (List.map bitChar bits ++ ['\n'])))
      = List.map bitChar bits ++ ['\n'] := List.drop_left
  simp only [reply, List.cons_append, List.nil_append, List.append_assoc, parseReply, hi, hn, if_true, e,
    List.dropLast_concat, List.map_map]
  exact congrArg _ (List.map_congr_left fun b _ => parse_bitChar b)

theorem Mem.write_of_ne (m : Mem) {c ch : Int} (h : c ≠ ch) (a : Int) (B : List Nat) (t : Int) :
    (m.write ch a B) c t = m c t := by
  simp only [Mem.write, h, false_and, if_false]

theorem Mem.write_nil (m : Mem) (ch a : Int) : m.write ch a [] = m := by
  funext c t
  simp only [Mem.write, List.getElem?_nil, ite_self]

theorem Mem.write_write (m : Mem) (ch a : Int) (u v : List Nat) :
    (m.write ch a u).write ch (a + u.length) v = m.write ch a (u ++ v) := by
  funext c t
  by_cases hc : c = ch
  · subst hc
    unfold Mem.write
    by_cases h2 : a + (u.length : Int) ≤ t
    · have h1 : a ≤ t := by omega
      have e : (t - a).toNat = u.length + (t - (a + u.length)).toNat := by omega
      simp only [true_and, h1, h2, if_true]
      rw [e, List.getElem?_append_right (by omega), Nat.add_sub_cancel_left]
      have : u[u.length + (t - (a + ↑u.length)).toNat]? = none := List.getElem?_eq_none (by omega)
      rw [this]
    · by_cases h1 : a ≤ t
      · simp only [true_and, h1, h2, if_true, if_false]
        have hlt : (t - a).toNat < u.length := by omega
        rw [List.getElem?_append_left hlt]
      · simp only [true_and, h1, h2, if_false]
  · rw [Mem.write_of_ne _ hc, Mem.write_of_ne _ hc, Mem.write_of_ne _ hc]

theorem Mem.execAll_dataCmds (ch : Int) : ∀ (cks : List (List Nat)) (m : Mem) (a : Int),
    m.execAll (dataCmds ch a cks) = m.write ch a cks.flatten
  | [], m, a => (m.write_nil ch a).symm
  | b :: cks, m, a => by
    have ih := Mem.execAll_dataCmds ch cks (m.write ch a b) (a + b.length)
    simp only [Mem.execAll] at ih ⊢
    simp only [dataCmds, List.foldl_cons, Mem.exec, ih, List.flatten_cons, Mem.write_write]

theorem Mem.execAll_append (m : Mem) (xs ys : List Command) :
    m.execAll (xs ++ ys) = (m.execAll xs).execAll ys := by
  simp only [Mem.execAll, List.foldl_append]

/-- writing block `p.2` at `a` on channel `p.1`, pair after pair: what the blocks of `blocksFor` do to the memory -/
def Mem.writePairs (m : Mem) (a : Int) (ps : List (Int × List Nat)) : Mem :=
  ps.foldl (fun m p => m.write p.1 a p.2) m

theorem blocksFor_cons (a : Int) (c : Int) (cs : List Int) (b : List Nat) (bs : List (List Nat)) :
    blocksFor a (c :: cs) (b :: bs) = dataCmds c a (chunks MAX_CHUNK_LEN b) ++ blocksFor a cs bs := by
  simp [blocksFor]

theorem Mem.execAll_blocksFor (a : Int) : ∀ (cs : List Int) (perCh : List (List Nat)) (m : Mem),
    m.execAll (blocksFor a cs perCh) = m.writePairs a (cs.zip perCh)
  | [], _, m => by simp [blocksFor, Mem.execAll, Mem.writePairs]
  | _ :: _, [], m => by simp [blocksFor, Mem.execAll, Mem.writePairs]
  | c :: cs, b :: bs, m => by
    rw [blocksFor_cons, Mem.execAll_append, Mem.execAll_dataCmds,
      chunks_flatten (by decide), Mem.execAll_blocksFor a cs bs]
    rfl

theorem Mem.writePairs_other (a : Int) : ∀ (ps : List (Int × List Nat)) (m : Mem) (c t : Int),
    c ∉ ps.map Prod.fst → (m.writePairs a ps) c t = m c t
  | [], _, _, _, _ => rfl
  | p :: ps, m, c, t, h => by
    rw [List.map_cons, List.mem_cons, not_or] at h
    exact (Mem.writePairs_other a ps (m.write p.1 a p.2) c t h.2).trans (m.write_of_ne h.1 a p.2 t)

theorem Mem.read_write_self (m : Mem) (ch a : Int) (B : List Nat) : (m.write ch a B).read ch a B.length = B := by
  apply List.ext_getElem
  · simp [Mem.read]
  · intro i _ h2
    have e : (a + (i : Int) - a).toNat = i := by omega
    simp only [Mem.read, Mem.write, List.getElem_map, List.getElem_range, true_and]
    rw [if_pos (by omega), e, List.getElem?_eq_getElem h2]

/-- the same block may be written to a channel several times -/
theorem Mem.read_writePairs (a : Int) : ∀ (ps : List (Int × List Nat)) (m : Mem) (c : Int) (B : List Nat),
    (c, B) ∈ ps → (∀ B', (c, B') ∈ ps → B' = B) → (m.writePairs a ps).read c a B.length = B
  | [], _, _, _, h, _ => by simp at h
  | p :: ps, m, c, B, hmem, hfun => by
    show ((m.write p.1 a p.2).writePairs a ps).read c a B.length = B
    by_cases hl : (c, B) ∈ ps
    · exact Mem.read_writePairs a ps _ c B hl fun B' h => hfun B' (List.mem_cons_of_mem _ h)
    · -- the head is the only pair for channel `c`
      obtain rfl : (c, B) = p := (List.mem_cons.mp hmem).resolve_right hl
      have hnot : c ∉ ps.map Prod.fst := by
        rintro hc
        obtain ⟨⟨c', B'⟩, hq, rfl⟩ := List.mem_map.mp hc
        exact hl (hfun B' (List.mem_cons_of_mem _ hq) ▸ hq)
      exact (List.map_congr_left fun i _ => Mem.writePairs_other a ps _ c _ hnot).trans (Mem.read_write_self m c a B)

theorem Mem.read_add (m : Mem) (ch a : Int) (p q : Nat) :
    m.read ch a (p + q) = m.read ch a p ++ m.read ch (a + p) q := by
  unfold Mem.read
  rw [List.range_add, List.map_append, List.map_map]
  congr 1
  apply List.map_congr_left
  intro i _
  simp only [Function.comp]
  congr 1
  omega

theorem readBlocks_eq (m : Mem) (ch : Int) : ∀ (ns : List Nat) (a : Int), (∀ n ∈ ns, n < 10 ^ 9) →
    readBlocks m ch a ns = .ok ((m.read ch a ns.sum).map norm)
  | [], a, _ => by
    simp [readBlocks, Mem.read]
  | n :: ns, a, h => by
    have hn : (m.read ch a n).length < 10 ^ 9 := by
      simp only [Mem.read, List.length_map, List.length_range]
      exact h n List.mem_cons_self
    simp only [readBlocks, parseReply_reply _ hn,
      readBlocks_eq m ch ns (a + n) (fun k hk => h k (List.mem_cons_of_mem _ hk)), bind, Except.bind, pure, Except.pure,
      List.sum_cons, Mem.read_add, List.map_append]

theorem mapM'_eq_mapM {α β} (f : α → Except Wire.Err β) : ∀ xs : List α, mapM' f xs = xs.mapM f
  | [] => rfl
  | x :: xs => by rw [mapM', mapM'_eq_mapM f xs, List.mapM_cons]

theorem mapM'_const {α β} (f : α → Except Wire.Err β) (b : β) : ∀ (xs : List α), (∀ x ∈ xs, f x = .ok b) →
    mapM' f xs = .ok (List.replicate xs.length b) := fun xs h => by
  rw [mapM'_eq_mapM, mapM_except_ok f (fun _ => b) xs h, List.map_const']

end OptiVerif.Ppg
