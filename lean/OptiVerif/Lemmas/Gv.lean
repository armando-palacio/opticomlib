/- Helper lemmas for C14 (global grid `gv`). -/
import OptiVerif.Model.Gv
import OptiVerif.Lemmas.Guard
import OptiVerif.Lemmas.Round

namespace OptiVerif.Gv

theorem truthy_some {x : Option ℚ} {v : ℚ} (h : truthy x = some v) : x = some v ∧ v ≠ 0 := by
  cases x with
  | none => cases h
  | some w =>
    rw [truthy] at h
    split at h
    · cases h
    · cases h; exact ⟨rfl, ‹_›⟩

theorem truthy_none {x : Option ℚ} (h : truthy x = none) : x = none ∨ x = some 0 := by
  cases x with
  | none => exact .inl rfl
  | some w =>
    rw [truthy] at h
    split at h
    · exact .inr (by rw [‹w = 0›])
    · cases h

theorem roundHalfEven_eq : roundHalfEven = pyRound := rfl

theorem roundHalfEven_div {f r : ℚ} {K : ℤ} (hr : r ≠ 0) (h : f = r * K) : f = r * roundHalfEven (f / r) := by
  rw [h, mul_div_cancel_left₀ _ hr, roundHalfEven_eq, pyRound_int]

theorem length_linspace (stop : ℚ) (n : ℕ) : (linspace stop n).length = n := by
  unfold linspace
  split
  · rename_i h; simp [h]
  · simp

theorem getElem?_linspace (stop : ℚ) (n k : ℕ) (hk : k < n) :
    (linspace stop n)[k]? = some ((k : ℚ) * (stop / ((n : ℚ) - 1))) := by
  unfold linspace
  split
  · subst n
    obtain rfl : k = 0 := by omega
    simp
  · rw [List.getElem?_map, List.getElem?_range hk]
    rfl

theorem linspace_ends (stop : ℚ) (n : ℕ) (hn : 2 ≤ n) :
    (linspace stop n)[0]? = some 0 ∧ (linspace stop n)[n - 1]? = some stop := by
  constructor
  · rw [getElem?_linspace stop n 0 (by omega), Nat.cast_zero, zero_mul]
  · have h2 : (n : ℚ) - 1 ≠ 0 := sub_ne_zero.mpr (by exact_mod_cast (by omega : n ≠ 1))
    rw [getElem?_linspace stop n (n - 1) (by omega), Nat.cast_sub (by omega), Nat.cast_one, ← mul_div_assoc,
      mul_div_cancel_left₀ _ h2]

theorem length_wgrid (n : ℕ) (fs : ℚ) : (wgrid n fs).length = n := by
  rw [wgrid, List.length_map, List.length_range]

theorem getElem?_wgrid (n : ℕ) (fs : ℚ) (k : ℕ) (hk : k < n) :
    (wgrid n fs)[k]? = some (2 * ((((k : ℤ) - ((n / 2 : ℕ) : ℤ) : ℤ) : ℚ) / (n : ℚ)) * fs) := by
  rw [wgrid, List.getElem?_map, List.getElem?_range hk]
  rfl

/-- `getattr(gv, k)` on a custom name -/
def lookup (c : List (String × Val)) (k : String) : Option Val := (c.find? (fun p => p.1 == k)).map (·.2)

theorem lookup_setKw_same (c : List (String × Val)) (k : String) (v : Val) : lookup (setKw c (k, v)) k = some v := by
  simp [lookup, setKw]

theorem lookup_setKw_other (c : List (String × Val)) (k k' : String) (v : Val) (h : k' ≠ k) :
    lookup (setKw c (k, v)) k' = lookup c k' := by
  have h1 : ∀ a : String × Val, (!decide (a.1 = k) && decide (a.1 = k')) = (a.1 == k') := fun a => by
    by_cases ha : a.1 = k' <;> simp [ha, h]
  simp [lookup, setKw, List.find?_filter, h.symm, h1]

theorem lookup_foldl_setKw_other (kw : List (String × Val)) (c : List (String × Val)) (k : String)
    (h : ∀ kv ∈ kw, kv.1 ≠ k) : lookup (kw.foldl setKw c) k = lookup c k := by
  induction kw generalizing c with
  | nil => rfl
  | cons kv kw ih =>
    rw [List.foldl_cons, ih _ (fun x hx => h x (List.mem_cons_of_mem _ hx))]
    obtain ⟨k0, v0⟩ := kv
    exact lookup_setKw_other c k0 k v0 (fun e => h (k0, v0) (List.mem_cons_self) e.symm)

theorem withGrid_some_ok {s1 s2 : State} {n : ℤ} (h : withGrid s1 (some n) = .ok s2) :
    0 < n * s1.sps ∧
      s2 = { s1 with N := some n, t := some (linspace (((n * s1.sps : ℤ) : ℚ) * s1.dt) (n * s1.sps).toNat),
                     dwPi := some (2 * s1.fs / ((n * s1.sps : ℤ) : ℚ)), wPi := some (wgrid (n * s1.sps).toNat s1.fs) } := by
  simp only [withGrid, ite_error_eq_ok, Except.ok.injEq] at h
  exact ⟨by omega, h.2.2.symm⟩

theorem withGrid_custom {s1 s2 : State} {N : Option ℤ} (h : withGrid s1 N = .ok s2) : s2.custom = s1.custom := by
  cases N with
  | none => cases h; rfl
  | some n => rw [(withGrid_some_ok h).2]

theorem withWavelength_ok {s2 s3 : State} {wl : ℚ} (h : withWavelength s2 wl = .ok s3) :
    wl ≠ 0 ∧ s3 = { s2 with wavelength := wl, f0 := cLight / wl } := by
  simp only [withWavelength, ite_error_eq_ok, Except.ok.injEq] at h
  exact ⟨h.1, h.2.symm⟩

/-- `a.N <|> s.N` is `if N is None: N = self.N`; `wl` is the wavelength passed, else the parameter default -/
theorem call_ok {s s' : State} {a : Args} (h : call s a = .ok s') :
    ∃ k r f s2 wl, rates s a = .ok (k, r, f) ∧ f ≠ 0 ∧
      withGrid { s with sps := k, R := r, fs := f, dt := 1 / f } (a.N <|> s.N) = .ok s2 ∧ wl ≠ 0 ∧
      s' = { s2 with wavelength := wl, f0 := cLight / wl, custom := a.kw.foldl setKw s.custom } := by
  simp only [call] at h
  obtain ⟨-, h⟩ := ite_error_eq_ok.mp h
  obtain ⟨⟨k, r, f⟩, hr, h⟩ := Except.bind_eq_ok.mp h
  obtain ⟨hf, h⟩ := ite_error_eq_ok.mp h
  obtain ⟨s2, hg, h⟩ := Except.bind_eq_ok.mp h
  obtain ⟨s3, hw, h⟩ := Except.bind_eq_ok.mp h
  cases h
  obtain ⟨hwl, rfl⟩ := withWavelength_ok hw
  refine ⟨k, r, f, s2, _, hr, hf, ?_, hwl, by rw [withGrid_custom hg]⟩
  cases haN : a.N <;> rw [haN] at hg <;> exact hg

theorem call_custom {s s' : State} {a : Args} (h : call s a = .ok s') : s'.custom = a.kw.foldl setKw s.custom := by
  obtain ⟨k, r, f, s2, wl, -, -, -, -, rfl⟩ := call_ok h
  rfl

theorem run_cons_ok {s s' : State} {op : Op} {ops : List Op} :
    run s (op :: ops) = .ok s' ↔ ∃ s1, step s op = .ok s1 ∧ run s1 ops = .ok s' := by
  rw [run]
  cases step s op <;> simp

end OptiVerif.Gv
