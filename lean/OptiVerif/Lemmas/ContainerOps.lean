/-
Operators on signal objects: the candidate an operator hands to the constructor, and the total-field law.
-/
import OptiVerif.Lemmas.ContainerCtor

namespace OptiVerif.Container
open OptiVerif.Wire (Err)

variable {α : Type}

/-- the operator as the documentation describes it: rejects exactly `len ≠ len ∧ other.len ≠ 1` with ValueError and
    broadcasts the noise of `other`.  The four tables generated from the source are of this kind (`addSpec_std` …) -/
structure OpSpec.Std (op : OpSpec α) : Prop where
  rej : ∀ m n, op.rej m n = true ↔ (m ≠ n ∧ n ≠ 1)
  exc : op.exc = .ValueError
  bcast : op.bcastOther = true

theorem addSpec_std [Add α] : (addSpec : OpSpec α).Std :=
  ⟨by intro m n; simp [addSpec, Gen.Container.add_reject], rfl, rfl⟩
theorem subSpec_std [Sub α] [Neg α] : (subSpec : OpSpec α).Std :=
  ⟨by intro m n; simp [subSpec, Gen.Container.sub_reject], rfl, rfl⟩
theorem rsubSpec_std [Add α] [Neg α] : (rsubSpec : OpSpec α).Std :=
  ⟨by intro m n; simp [rsubSpec, Gen.Container.rsub_reject], rfl, rfl⟩
theorem mulSpec_std [Mul α] : (mulSpec : OpSpec α).Std :=
  ⟨by intro m n; simp [mulSpec, Gen.Container.mul_reject], rfl, rfl⟩

def OpSpec.cand (op : OpSpec α) (a b : Sig α) : Sig α :=
  ⟨a.cls, (Rows.bin op.fs a.sig b.sig).count, DType.max a.dt b.dt, Rows.bin op.fs a.sig b.sig,
    (opNoise op a b).map (·.2)⟩

theorem OpSpec.cand_sig (op : OpSpec α) (a b : Sig α) : (op.cand a b).sig = Rows.bin op.fs a.sig b.sig := rfl

theorem OpSpec.cand_noise (op : OpSpec α) (a b : Sig α) :
    (op.cand a b).noise = (opNoise op a b).map (·.2) := rfl

theorem opNoise_tag_le {op : OpSpec α} {a b : Sig α} {p : DType × Rows α} (hp : opNoise op a b = some p) :
    p.1.rank ≤ (DType.max a.dt b.dt).rank := by
  unfold opNoise at hp
  split at hp <;> cases hp
  · exact DType.rank_le_max_right _ _
  · exact DType.rank_le_max_left _ _
  · exact Nat.le_refl _

theorem opNoise_isSome (op : OpSpec α) (a b : Sig α) :
    (opNoise op a b).isSome = (a.noise.isSome || b.noise.isSome) := by
  unfold opNoise
  cases a.noise <;> cases b.noise <;> rfl

theorem binop_eq [DropIm α] (op : OpSpec α) (a b : Sig α) :
    binop op a b = if op.rej a.len b.len = true then .error op.exc else build (op.cand a b) := by
  unfold binop
  split
  · rfl
  · exact construct_arr _ rfl (Nat.le_refl _) _ _ fun p hp => ⟨rfl, opNoise_tag_le hp⟩

theorem OpSpec.cand_noise_std {op : OpSpec α} (h : op.bcastOther = true) (a b : Sig α) :
    (op.cand a b).noise =
      match a.noise, b.noise with
      | none, none => none
      | none, some nb => some (Rows.bin (fun _ y => op.onlyOther y) a.sig nb)
      | some na, none => some (na.map op.onlySelf)
      | some na, some nb => some (Rows.bin op.fn na nb) := by
  rw [OpSpec.cand_noise]
  unfold opNoise
  cases a.noise <;> cases b.noise <;> simp [h]

theorem binop_ok_iff [DropIm α] {op : OpSpec α} {a b s : Sig α} :
    binop op a b = .ok s ↔ op.rej a.len b.len = false ∧ WF (op.cand a b) ∧ s = op.cand a b := by
  rw [binop_eq, ite_error_eq_ok, build_ok_iff, Bool.not_eq_true]

theorem binop_wf [DropIm α] {op : OpSpec α} {a b s : Sig α} (h : binop op a b = .ok s) :
    s = op.cand a b ∧ WF s := by
  obtain ⟨-, w, rfl⟩ := binop_ok_iff.1 h
  exact ⟨rfl, w⟩

theorem binop_spec [DropIm α] {op : OpSpec α} (hstd : op.Std) {a b s : Sig α} (h : binop op a b = .ok s) :
    (b.len = a.len ∨ b.len = 1) ∧ s = op.cand a b ∧ WF s := by
  refine ⟨?_, binop_wf h⟩
  have hl := (binop_ok_iff.1 h).1
  rw [Bool.eq_false_iff, Ne, hstd.rej] at hl
  omega

theorem binop_raises [DropIm α] {op : OpSpec α} (hstd : op.Std) (a b : Sig α) :
    Raises (· = Err.ValueError) (binop op a b) := by
  rw [binop_eq]
  exact .ite (.error hstd.exc) (build_raises _)

theorem binop_len [DropIm α] {op : OpSpec α} (hstd : op.Std) {a b s : Sig α} (h : binop op a b = .ok s) :
    s.len = a.len := by
  obtain ⟨hl, rfl, _⟩ := binop_spec hstd h
  exact Rows.bin_len _ hl

theorem binop_count [DropIm α] {op : OpSpec α} {a b s : Sig α} (h : binop op a b = .ok s) :
    s.sig.count = Nat.max a.sig.count b.sig.count := by
  obtain ⟨rfl, _⟩ := binop_wf h
  exact Rows.bin_count _ _ _

theorem binop_npol [DropIm α] {op : OpSpec α} {a b s : Sig α} (wa : WF a) (wb : WF b) (h : binop op a b = .ok s) :
    s.npol = Nat.max a.npol b.npol := by
  rw [(binop_wf h).2.npol_rows, binop_count h, wa.npol_rows, wb.npol_rows]

theorem cand_wf {op : OpSpec α} (hbc : op.bcastOther = true) {a b : Sig α} (ha : WF a) (hb : WF b)
    (hc : b.sig.count ≤ a.sig.count) (hl : b.len = a.len ∨ b.len = 1) : WF (op.cand a b) := by
  have ha' : a.sig.Fits a.sig := ⟨ha.valid, rfl, rfl⟩
  obtain ⟨vs, cs, ls⟩ := Rows.bin_fits op.fs ha' ⟨hb.valid, rfl, rfl⟩ hc hl
  refine ⟨vs, ?_, rfl, fun hE => cs.trans (ha.elec_one hE)⟩
  rw [OpSpec.cand_sig, cs, ls, OpSpec.cand_noise_std hbc]
  cases hna : a.noise <;> cases hnb : b.noise <;>
    simp only [Option.some.injEq, forall_eq', reduceCtorEq, false_implies, implies_true]
  · exact Rows.bin_fits _ ha' (hb.noise_shape _ hnb) hc hl
  · exact Rows.map_fits _ (ha.noise_shape _ hna)
  · exact Rows.bin_fits _ (ha.noise_shape _ hna) (hb.noise_shape _ hnb) hc hl

theorem objop_ok [DropIm α] {op : OpSpec α} {a b s : Sig α} (h : objop op a b = .ok s) : binop op a b = .ok s := by
  unfold objop at h
  split at h
  · cases h
  · exact h

theorem objop_same_class [DropIm α] (op : OpSpec α) {a b : Sig α} (h : a.cls = b.cls) :
    objop op a b = binop op a b := by
  unfold objop
  rw [if_neg]
  rintro ⟨h1, h2⟩; rw [h1, h2] at h; cases h

theorem rawop_of_convert [DropIm α] (op : OpSpec α) {a o : Sig α} {r : Raw α} (h : convert a.cls r = .ok o) :
    rawop op a r = binop op a o := by
  unfold rawop
  rw [h]

theorem rawop_ok [DropIm α] {op : OpSpec α} {a s : Sig α} {r : Raw α} (h : rawop op a r = .ok s) :
    ∃ o, convert a.cls r = .ok o ∧ WF o ∧ binop op a o = .ok s := by
  unfold rawop at h
  cases hc : convert a.cls r with
  | error e => simp [hc] at h
  | ok o =>
    simp only [hc] at h
    exact ⟨o, rfl, (mkCls_spec ((construct_eq _ _ _ _).symm.trans hc)).1, h⟩

/-- the algebra an operator's four expressions must satisfy for the total-field law -/
structure OpSpec.Linear [Add α] (op : OpSpec α) : Prop where
  other : ∀ x y n, op.fs x y + op.onlyOther n = op.fs x (y + n)
  self : ∀ x y n, op.fs x y + op.onlySelf n = op.fs (x + n) y
  both : ∀ x y n m, op.fs x y + op.fn n m = op.fs (x + n) (y + m)

namespace Rows
section
variable [Add α]

/-- signal + noise, row by row: the body of the model's `Sig.total` for `some n` (`Sig.total_eq`) -/
def zipAdd : Rows α → Rows α → Rows α
  | .one xs, .one ns => .one (List.zipWith (· + ·) xs ns)
  | .two x1 x2, .two n1 n2 => .two (List.zipWith (· + ·) x1 n1) (List.zipWith (· + ·) x2 n2)
  | sg, _ => sg

theorem count_zipAdd (X N : Rows α) : (zipAdd X N).count = X.count := by
  cases X <;> cases N <;> rfl

theorem row_zipAdd {X N : Rows α} (hc : N.count = X.count) (i : Bool) :
    (zipAdd X N).row i = List.zipWith (· + ·) (X.row i) (N.row i) := by
  cases X <;> cases N <;> cases hc <;> cases i <;> rfl

theorem zipAdd_fits {X N : Rows α} (hX : X.Valid) (hN : N.Fits X) : (zipAdd X N).Fits X := by
  have hrow : ∀ i, ((zipAdd X N).row i).length = X.len := fun i => by
    rw [row_zipAdd hN.2.1, List.length_zipWith, length_row_eq hN.1 hX hN.2.2, Nat.min_self, length_row hX]
  have hlen : (zipAdd X N).len = X.len := by rw [len_eq_row]; exact hrow false
  exact ⟨(valid_iff _).2 ⟨fun i => (hrow i).trans hlen.symm, hlen ▸ len_pos hX⟩, count_zipAdd X N, hlen⟩

theorem zw_other {f : α → α → α} {g : α → α} (h : ∀ x y n, f x y + g n = f x (y + n)) (xs Y N : List α) :
    List.zipWith (· + ·) (List.zipWith f xs Y) (List.zipWith (fun _ n => g n) xs N)
      = List.zipWith f xs (List.zipWith (· + ·) Y N) := by
  induction xs generalizing Y N with
  | nil => simp
  | cons x xs ih => cases Y <;> cases N <;> simp [h, ih]

theorem zw_self {f : α → α → α} {g : α → α} (h : ∀ x y n, f x y + g n = f (x + n) y) (xs Y na : List α) :
    List.zipWith (· + ·) (List.zipWith f xs Y) (na.map g)
      = List.zipWith f (List.zipWith (· + ·) xs na) Y := by
  induction xs generalizing Y na with
  | nil => simp
  | cons x xs ih => cases Y <;> cases na <;> simp [h, ih]

theorem zw_both {f fn : α → α → α} (h : ∀ x y n m, f x y + fn n m = f (x + n) (y + m)) (xs Y na NB : List α) :
    List.zipWith (· + ·) (List.zipWith f xs Y) (List.zipWith fn na NB)
      = List.zipWith f (List.zipWith (· + ·) xs na) (List.zipWith (· + ·) Y NB) := by
  induction xs generalizing Y na NB with
  | nil => simp
  | cons x xs ih => cases Y <;> cases na <;> cases NB <;> simp [h, ih]

theorem bc_zipWith (n : Nat) {ys ns : List α} (h : ns.length = ys.length) :
    bc n (List.zipWith (· + ·) ys ns) = List.zipWith (· + ·) (bc n ys) (bc n ns) := by
  match ys, ns, h with
  | [], [], _ => simp [bc]
  | [y], [m], _ => simp [bc]
  | y :: y' :: ys, m :: m' :: ns, _ => simp [bc]

theorem bin_other {f : α → α → α} {g : α → α} (h : ∀ x y n, f x y + g n = f x (y + n)) {A B nb : Rows α}
    (hA : A.Valid) (hB : B.Valid) (hnb : nb.Fits B) (hAB : B.len = A.len ∨ B.len = 1) :
    zipAdd (bin f A B) (bin (fun _ n => g n) A nb) = bin f A (zipAdd B nb) := by
  have zB := zipAdd_fits hB hnb
  refine ext_row (by simp only [count_zipAdd, bin_count]) fun i => ?_
  rw [row_zipAdd (by rw [bin_count, bin_count, hnb.2.1]), row_bin_valid f hA hB hAB,
    row_bin_valid _ hA hnb.1 (hnb.2.2 ▸ hAB), row_bin_valid f hA zB.1 (zB.2.2 ▸ hAB), row_zipAdd hnb.2.1,
    bc_zipWith _ (length_row_eq hnb.1 hB hnb.2.2 i)]
  exact zw_other h _ _ _

theorem bin_self {f : α → α → α} {g : α → α} (h : ∀ x y n, f x y + g n = f (x + n) y) {A na B : Rows α}
    (hA : A.Valid) (hna : na.Fits A) (hB : B.Valid) (hcB : B.count ≤ A.count) (hAB : B.len = A.len ∨ B.len = 1) :
    zipAdd (bin f A B) (na.map g) = bin f (zipAdd A na) B := by
  have zA := zipAdd_fits hA hna
  refine ext_row (by simp only [count_zipAdd, bin_count]) fun i => ?_
  rw [row_zipAdd (by rw [count_map, bin_count, hna.2.1]; exact (Nat.max_eq_left hcB).symm),
    row_bin_valid f hA hB hAB, row_bin_valid f zA.1 hB (zA.2.2 ▸ hAB), row_zipAdd hna.2.1, map, row_mapL, zA.2.2]
  exact zw_self h _ _ _

theorem bin_both {f fn : α → α → α} (h : ∀ x y n m, f x y + fn n m = f (x + n) (y + m)) {A na B nb : Rows α}
    (hA : A.Valid) (hna : na.Fits A) (hB : B.Valid) (hnb : nb.Fits B) (hAB : B.len = A.len ∨ B.len = 1) :
    zipAdd (bin f A B) (bin fn na nb) = bin f (zipAdd A na) (zipAdd B nb) := by
  have zA := zipAdd_fits hA hna
  have zB := zipAdd_fits hB hnb
  refine ext_row (by simp only [count_zipAdd, bin_count]) fun i => ?_
  rw [row_zipAdd (by rw [bin_count, bin_count, hna.2.1, hnb.2.1]), row_bin_valid f hA hB hAB,
    row_bin_valid fn hna.1 hnb.1 (by rw [hnb.2.2, hna.2.2]; exact hAB),
    row_bin_valid f zA.1 zB.1 (by rw [zB.2.2, zA.2.2]; exact hAB), row_zipAdd hna.2.1, row_zipAdd hnb.2.1,
    zA.2.2, hna.2.2, bc_zipWith _ (length_row_eq hnb.1 hB hnb.2.2 i)]
  exact zw_both h _ _ _ _

end
end Rows

theorem Sig.total_eq [Add α] (s : Sig α) :
    s.total = match s.noise with | none => s.sig | some n => Rows.zipAdd s.sig n := by
  unfold Sig.total
  cases s.noise with
  | none => rfl
  | some n => cases s.sig <;> cases n <;> rfl

theorem binop_total [Add α] [DropIm α] {op : OpSpec α} (hstd : op.Std) (hop : op.Linear) {a b s : Sig α}
    (ha : WF a) (hb : WF b) (h : binop op a b = .ok s) : s.total = Rows.bin op.fs a.total b.total := by
  obtain ⟨hl, hs, hwf⟩ := binop_spec hstd h
  rw [Sig.total_eq s, Sig.total_eq a, Sig.total_eq b]
  have hsn := hwf.noise_shape
  subst hs
  simp only [OpSpec.cand_sig, OpSpec.cand_noise_std hstd.bcast] at hsn ⊢
  cases hna : a.noise with
  | none =>
    cases hnb : b.noise with
    | none => simp
    | some nb => exact Rows.bin_other hop.other ha.valid hb.valid (hb.noise_shape nb hnb) hl
  | some na =>
    have fa := ha.noise_shape na hna
    cases hnb : b.noise with
    | none =>
      -- the constructor accepted `na.map onlySelf` as noise of the result, so `b` has no more rows than `a`
      have := (hsn (Rows.map op.onlySelf na) (by simp [hna, hnb])).2.1
      rw [Rows.count_map, Rows.bin_count, fa.2.1] at this
      exact Rows.bin_self hop.self ha.valid fa hb.valid
        (Nat.le_trans (Nat.le_max_right _ _) (Nat.le_of_eq this.symm)) hl
    | some nb => exact Rows.bin_both hop.both ha.valid fa hb.valid (hb.noise_shape nb hnb) hl

end OptiVerif.Container
