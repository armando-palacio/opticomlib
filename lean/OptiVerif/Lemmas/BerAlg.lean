import OptiVerif.Lemmas.Ber

namespace OptiVerif.Ber

theorem ookSum_bounds {Q : ℝ → ℝ} (hQ : QSpec Q) (mu s0 s1 r : ℝ) : 0 ≤ ookSum Q mu s0 s1 r ∧ ookSum Q mu s0 s1 r ≤ 2 :=
  ⟨add_nonneg (hQ.nonneg _) (hQ.nonneg _), (add_le_add (hQ.le_one _) (hQ.le_one _)).trans_eq one_add_one_eq_two⟩

theorem ookSum_zero_le {Q : ℝ → ℝ} (hQ : QSpec Q) {mu s1 : ℝ} (s0 : ℝ) (hmu : 0 ≤ mu) (hs1 : 0 < s1) :
    ookSum Q mu s0 s1 0 ≤ 1 := by
  have h : Q (mu / s1) ≤ Q 0 := hQ.anti (div_nonneg hmu hs1.le)
  rw [ookSum, sub_zero, zero_div]
  rw [hQ.zero] at h ⊢
  exact (add_le_add_left h _).trans_eq (add_halves 1)

/-- `r = c·μ` on the grid of `[0, μ]`: ON-level argument in OOK's and in PPM's form, OFF-level argument -/
theorem levelArgs_mono {mu mu' s0 s1 c : ℝ} (hs0 : 0 < s0) (hs1 : 0 < s1) (hle : mu ≤ mu') (h0 : 0 ≤ c) (h1 : c ≤ 1) :
    (mu - c * mu) / s1 ≤ (mu' - c * mu') / s1 ∧ (c * mu' - mu') / s1 ≤ (c * mu - mu) / s1 ∧
      c * mu / s0 ≤ c * mu' / s0 := by
  have hON : (mu - c * mu) / s1 ≤ (mu' - c * mu') / s1 := by
    rw [← one_sub_mul, ← one_sub_mul]
    exact div_le_div_of_nonneg_right (mul_le_mul_of_nonneg_left hle (sub_nonneg.mpr h1)) hs1.le
  refine ⟨hON, ?_, div_le_div_of_nonneg_right (mul_le_mul_of_nonneg_left hle h0) hs0.le⟩
  rw [← neg_sub mu', ← neg_sub mu, neg_div, neg_div]
  exact neg_le_neg hON

theorem ppm_term_bounds {Q : ℝ → ℝ} (hQ : QSpec Q) (M : ℕ) (a b : ℝ) :
    0 ≤ 1 - Q a * (1 - Q b) ^ (M - 1) ∧ 1 - Q a * (1 - Q b) ^ (M - 1) ≤ 1 := by
  obtain ⟨hp0, hp1⟩ := hQ.pow_compl_mem b (M - 1)
  exact ⟨sub_nonneg.mpr (mul_le_one₀ (hQ.le_one a) hp0 hp1), sub_le_self 1 (mul_nonneg (hQ.nonneg a) hp0)⟩

theorem ppmFactorEst_eq (M : ℕ) (pe : ℝ) : ppmFactorEst M pe = ppmFactorTheory M pe := by
  simp only [ppmFactorTheory, ppmFactorEst, half_real, lit_real]
  ring

theorem ppmFactorTheory_eq (M : ℕ) (pe : ℝ) : ppmFactorTheory M pe = pe * ((M : ℝ) / (2 * ((M : ℝ) - 1))) := by
  simp only [ppmFactorTheory, half_real, lit_real]
  -- `ring` does not split `(2 * (M - 1))⁻¹`
  rw [← div_div]
  ring

theorem ppmFactor_nonneg {M : ℕ} (hM : 2 ≤ M) : 0 ≤ (M : ℝ) / (2 * ((M : ℝ) - 1)) :=
  div_nonneg M.cast_nonneg (mul_nonneg zero_le_two (sub_nonneg.mpr (Nat.one_le_cast.mpr (one_le_two.trans hM))))

theorem ppmFactorTheory_mem {M : ℕ} (hM : 2 ≤ M) {pe : ℝ} (h : 0 ≤ pe ∧ pe ≤ 1) :
    0 ≤ ppmFactorTheory M pe ∧ ppmFactorTheory M pe ≤ (M : ℝ) / (2 * ((M : ℝ) - 1)) := by
  rw [ppmFactorTheory_eq]
  exact ⟨mul_nonneg h.1 (ppmFactor_nonneg hM), mul_le_of_le_one_left (ppmFactor_nonneg hM) h.2⟩

theorem ppmFactorTheory_mono {M : ℕ} (hM : 2 ≤ M) {w w' : ℝ} (h : w' ≤ w) : ppmFactorTheory M w' ≤ ppmFactorTheory M w := by
  rw [ppmFactorTheory_eq, ppmFactorTheory_eq]
  exact mul_le_mul_of_nonneg_right h (ppmFactor_nonneg hM)

theorem softFrom_mem {I : ℝ} (hI0 : 0 ≤ I) (hI1 : I ≤ Real.sqrt (2 * Real.pi)) :
    0 ≤ (softFrom I : ℝ) ∧ (softFrom I : ℝ) ≤ 1 := by
  rw [softFrom_real]
  exact ⟨sub_nonneg.mpr (div_le_one_of_le₀ hI1 (Real.sqrt_nonneg _)), sub_le_self _ (div_nonneg hI0 (Real.sqrt_nonneg _))⟩

/-- `hq`: the logarithm of `m·N(r;μ0,S0) = N(r;μ1,S1)`, cleared of denominators -/
theorem crossing_of_quadratic {m r mu0 mu1 S0 S1 : ℝ} (hS0 : 0 < S0) (hS1 : 0 < S1) (hm : 0 < m)
    (hq : S0 * (r - mu1) ^ 2 - S1 * (r - mu0) ^ 2 + 2 * S0 * S1 * Real.log (Real.sqrt S1 / Real.sqrt S0 * m) = 0) :
    m * normalPdf r mu0 S0 = normalPdf r mu1 S1 := by
  have hL : Real.exp (Real.log (Real.sqrt S1 / Real.sqrt S0 * m)) = Real.sqrt S1 / Real.sqrt S0 * m :=
    Real.exp_log (by positivity)
  generalize Real.log (Real.sqrt S1 / Real.sqrt S0 * m) = L at hq hL
  have hexp : -((r - mu1) * (r - mu1)) / (2 * S1) = -((r - mu0) * (r - mu0)) / (2 * S0) + L := by
    field_simp
    linear_combination (-1) * hq
  simp only [normalPdf, lit_real, Nat.cast_ofNat, Transc.exp_real, Transc.sqrt_real, Transc.pi_real]
  rw [hexp, Real.exp_add, hL]
  have r0 : Real.sqrt (2 * Real.pi * S0) = Real.sqrt (2 * Real.pi) * Real.sqrt S0 := Real.sqrt_mul (by positivity) _
  have r1 : Real.sqrt (2 * Real.pi * S1) = Real.sqrt (2 * Real.pi) * Real.sqrt S1 := Real.sqrt_mul (by positivity) _
  rw [r0, r1]
  field_simp

theorem crossing_root {mu0 mu1 S0 S1 L X : ℝ} (hd : S1 - S0 ≠ 0)
    (hX : X ^ 2 = S1 * S0 * ((mu1 - mu0) * (mu1 - mu0) + 2 * (S1 - S0) * L)) :
    S0 * ((mu0 * S1 - mu1 * S0 + X) / (S1 - S0) - mu1) ^ 2 - S1 * ((mu0 * S1 - mu1 * S0 + X) / (S1 - S0) - mu0) ^ 2 +
      2 * S0 * S1 * L = 0 := by
  field_simp
  linear_combination (S0 - S1) * hX

theorem optimumThreshold_of_ne {mu0 mu1 S0 S1 : ℝ} (M : ℕ) (hne : S0 ≠ S1) :
    optimumThreshold mu0 mu1 S0 S1 M = (mu0 * S1 - mu1 * S0 + Real.sqrt S1 * Real.sqrt S0 * Real.sqrt
      ((mu1 - mu0) * (mu1 - mu0) + 2 * (S1 - S0) * Real.log (Real.sqrt S1 / Real.sqrt S0 * ((M : ℝ) - 1)))) / (S1 - S0) := by
  have hbranch : ¬ (¬ (S1 < S0) ∧ ¬ (S0 < S1)) := fun ⟨h1, h2⟩ => hne (le_antisymm (not_lt.mp h1) (not_lt.mp h2))
  simp only [optimumThreshold, hbranch, if_false, Gen.BerFormulas.otGeneral, Transc.sqrt_real, Transc.log_real, Nat.cast_one,
    Nat.cast_ofNat]
  rw [one_div, inv_mul_eq_div]

theorem optimumThreshold_self (mu0 mu1 S : ℝ) (M : ℕ) :
    optimumThreshold mu0 mu1 S S M = (mu0 + mu1) / 2 + S * Real.log ((M : ℝ) - 1) / (mu1 - mu0) := by
  simp [optimumThreshold, Gen.BerFormulas.otEqual]

end OptiVerif.Ber
