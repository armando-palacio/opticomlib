import OptiVerif.Model.FiberNL
import Mathlib.Data.Real.Basic

namespace OptiVerif

open Classical in
noncomputable instance : Cmp ℝ := ⟨fun a b => decide (a < b), fun a => decide (a = 0)⟩

@[simp] theorem Cmp.lt_real (a b : ℝ) : (Cmp.lt a b = true) ↔ a < b := by simp [Cmp.lt]
@[simp] theorem Cmp.eqz_real (a : ℝ) : (Cmp.eqz a = true) ↔ a = 0 := by simp [Cmp.eqz]
@[simp] theorem Cmp.lt_real_false (a b : ℝ) : (Cmp.lt a b = false) ↔ ¬ a < b := by simp [Cmp.lt]

end OptiVerif
