/-
Termination of the adaptive loop: every step is at least `phi_max / (gamma * E0)` long, because peak total power ≤ total
energy ≤ input energy E0 (loss ≥ 0, steps ≥ 0).  Then the phase bound of the step rule.
-/
import OptiVerif.Lemmas.FiberNL

namespace OptiVerif.FiberNL
open OptiVerif.Fourier

/-- the two layouts a container allows: one row, or two rows of equal length (`totalPower` truncates unequal rows and
    recurses on three or more: `sum_totalPower` needs this) -/
def Layout (A : Rows ℝ) : Prop := (∃ x, A = [x]) ∨ (∃ x y, A = [x, y] ∧ x.length = y.length)

/-- total energy over all polarisations -/
def energy (A : Rows ℝ) : ℝ := (A.map sumSq).sum

theorem maxR_eq_max (a b : ℝ) : maxR a b = max a b := by
  simp only [maxR, Cmp.lt_real, max_def_lt]

theorem maxList_cons_cons (a b : ℝ) (l : List ℝ) : maxList (a :: b :: l) = max a (maxList (b :: l)) :=
  maxR_eq_max a _

theorem maxList_mem {l : List ℝ} (hl : l ≠ []) : maxList l ∈ l := by
  induction l with
  | nil => exact absurd rfl hl
  | cons a l ih =>
    cases l with
    | nil => exact List.mem_singleton.mpr rfl
    | cons b l =>
      rw [maxList_cons_cons]
      rcases max_choice a (maxList (b :: l)) with h | h <;> rw [h]
      · exact List.mem_cons_self
      · exact List.mem_cons_of_mem _ (ih (List.cons_ne_nil b l))

theorem le_maxList : ∀ {l : List ℝ} {x : ℝ}, x ∈ l → x ≤ maxList l
  | [a], x, hx => (List.mem_singleton.mp hx).le
  | a :: b :: l, x, hx => by
    rw [maxList_cons_cons]
    rcases List.mem_cons.mp hx with rfl | hx
    · exact le_max_left _ _
    · exact (le_maxList hx).trans (le_max_right _ _)

theorem sum_totalPower (A : Rows ℝ) (hA : Layout A) : (totalPower A).sum = energy A := by
  rcases hA with ⟨x, rfl⟩ | ⟨x, y, rfl, hxy⟩
  · simp [totalPower, energy, sumSq_eq_map_sum]
  · simp only [totalPower, energy, List.map_cons, List.map_nil, List.sum_cons, List.sum_nil, add_zero]
    rw [← List.sum_add_sum_eq_sum_zipWith_of_length_eq _ _ (by simp [hxy]), sumSq_eq_map_sum, sumSq_eq_map_sum]

theorem totalPower_nonneg : ∀ (A : Rows ℝ), ∀ p ∈ totalPower A, 0 ≤ p
  | [], _, hp => nomatch hp
  | [r], p, hp => by
    obtain ⟨z, _, rfl⟩ := List.mem_map.mp hp
    exact Cx.normSq_nonneg z
  | r :: s :: rs, p, hp => by
    obtain ⟨i, hi, rfl⟩ := List.mem_iff_getElem.mp
      (show p ∈ List.zipWith (· + ·) (r.map Cx.normSq) (totalPower (s :: rs)) from hp)
    rw [List.getElem_zipWith, List.getElem_map]
    exact add_nonneg (Cx.normSq_nonneg _) (totalPower_nonneg (s :: rs) _ (List.getElem_mem _))

theorem peak_nonneg (A : Rows ℝ) : 0 ≤ peak A := by
  rcases eq_or_ne (totalPower A) [] with h | h
  · simp [peak, h, maxList]
  · exact totalPower_nonneg A _ (maxList_mem h)

theorem peak_le_energy (A : Rows ℝ) (hA : Layout A) : peak A ≤ energy A := by
  rw [← sum_totalPower A hA]
  rcases eq_or_ne (totalPower A) [] with h | h
  · simp [peak, h, maxList]
  · exact List.single_le_sum (totalPower_nonneg A) _ (maxList_mem h)

theorem peak_pos (A : Rows ℝ) (hA : Layout A) (hE : 0 < energy A) : 0 < peak A := by
  rw [← sum_totalPower A hA] at hE
  obtain ⟨x, hx, h0⟩ : ∃ x ∈ totalPower A, 0 < x := List.exists_lt_of_sum_lt (fun _ => 0) id (by simpa using hE)
  exact h0.trans_le (le_maxList hx)

theorem nextH_nonneg {gamma phiMax : ℝ} (hg : 0 < gamma) (hphi : 0 ≤ phiMax) (L : ℝ) (A : Rows ℝ) :
    0 ≤ nextH gamma phiMax L A := by
  rw [nextH_of_ne hg.ne']
  exact div_nonneg hphi (mul_nonneg hg.le (peak_nonneg A))

theorem firstH_nonneg {b2 b3 gamma phiMax L : ℝ} (hd : ¬ (b2 = 0 ∧ b3 = 0)) (hg : 0 < gamma) (hphi : 0 ≤ phiMax)
    (hL : 0 ≤ L) (A : Rows ℝ) : 0 ≤ firstH b2 b3 gamma phiMax L A := by
  rw [firstH_eq_min_nextH hd hg.ne']
  exact le_min hL (nextH_nonneg hg hphi L A)

theorem layout_step (wConv fs alphaP b2 b3 gamma : ℝ) (A : Rows ℝ) (hA : Layout A) (h : ℝ) :
    Layout (step wConv fs alphaP b2 b3 gamma A h) := by
  rcases hA with ⟨x, rfl⟩ | ⟨x, y, rfl, hxy⟩
  · exact Or.inl ⟨_, rfl⟩
  · exact Or.inr ⟨_, _, rfl, by rw [length_stepRow, length_stepRow, hxy]⟩

theorem energy_step (wConv fs alphaP b2 b3 gamma : ℝ) (A : Rows ℝ) (h : ℝ) :
    energy (step wConv fs alphaP b2 b3 gamma A h) = Real.exp (-alphaP * h) * energy A := by
  rw [energy, map_sumSq_step, List.sum_map_mul_left, List.map_id']
  rfl

theorem div_le_nextH {gamma phiMax E0 : ℝ} (hg : 0 < gamma) (hphi : 0 ≤ phiMax) (L : ℝ) {A : Rows ℝ} (hA : Layout A)
    (hE : 0 < energy A) (hE0 : energy A ≤ E0) : phiMax / (gamma * E0) ≤ nextH gamma phiMax L A := by
  rw [nextH_of_ne hg.ne']
  exact div_le_div_of_nonneg_left hphi (mul_pos hg (peak_pos A hA hE))
    (mul_le_mul_of_nonneg_left ((peak_le_energy A hA).trans hE0) hg.le)

def LoopInv (E0 : ℝ) (B : Rows ℝ) (h : ℝ) : Prop := Layout B ∧ 0 ≤ h ∧ 0 < energy B ∧ energy B ≤ E0

theorem loopInv_step {wConv fs alphaP b2 b3 gamma phiMax E0 : ℝ} (hg : 0 < gamma) (hphi : 0 < phiMax) (ha : 0 ≤ alphaP)
    (L : ℝ) {B : Rows ℝ} {h : ℝ} (hI : LoopInv E0 B h) :
    LoopInv E0 (step wConv fs alphaP b2 b3 gamma B h) (nextH gamma phiMax L (step wConv fs alphaP b2 b3 gamma B h)) ∧
      phiMax / (gamma * E0) ≤ nextH gamma phiMax L (step wConv fs alphaP b2 b3 gamma B h) := by
  obtain ⟨hB, hh, hpos, hle⟩ := hI
  have hB' := layout_step wConv fs alphaP b2 b3 gamma B hB h
  have hpos' : 0 < energy (step wConv fs alphaP b2 b3 gamma B h) := by
    rw [energy_step]
    exact mul_pos (Real.exp_pos _) hpos
  have hle' : energy (step wConv fs alphaP b2 b3 gamma B h) ≤ E0 := by
    rw [energy_step]
    refine (mul_le_of_le_one_left hpos.le (Real.exp_le_one_iff.mpr ?_)).trans hle
    rw [neg_mul]
    exact neg_nonpos.mpr (mul_nonneg ha hh)
  have hn := div_le_nextH hg hphi.le L hB' hpos' hle'
  exact ⟨⟨hB', (div_pos hphi (mul_pos hg (hpos.trans_le hle))).le.trans hn, hpos', hle'⟩, hn⟩

theorem fiber_terminates (wConv kappa fs alpha b2 b3 : ℝ) {gamma phiMax L : ℝ} {A : Rows ℝ} (hA : Layout A)
    (hg : 0 < gamma) (hphi : 0 < phiMax) (hL : 0 ≤ L) (ha : 0 ≤ alpha / kappa) (hE : 0 < energy A) {fuel : ℕ}
    (hfuel : L * gamma * energy A / phiMax + 1 < fuel) :
    ∃ out, fiber wConv kappa fs alpha b2 b3 gamma phiMax L fuel A = .ok out := by
  by_cases hdisp : b2 = 0 ∧ b3 = 0
  · exact ⟨_, fiber_of_spm _ _ _ _ ⟨hdisp.1, hdisp.2, hg.ne'⟩ _ _ _ _⟩
  rw [fiber_of_loop _ _ _ _ (fun h => hdisp ⟨h.1, h.2.1⟩)]
  have hmin : 0 < phiMax / (gamma * energy A) := div_pos hphi (mul_pos hg hE)
  have hh0 : 0 ≤ firstH b2 b3 gamma phiMax L A := firstH_nonneg hdisp hg hphi.le hL A
  have hLm : L / (phiMax / (gamma * energy A)) = L * gamma * energy A / phiMax := by rw [div_div_eq_mul_div, mul_assoc]
  obtain ⟨r, hr⟩ := loop_terminates_of (acc := []) (LoopInv (energy A)) hmin (fun B h => loopInv_step hg hphi ha L)
    ⟨hA, hh0, hE, le_rfl⟩ hh0 (firstH_le ..) (hLm.symm ▸ hfuel)
  exact ⟨_, by rw [hr]; rfl⟩

theorem phase_of_le {gamma phiMax : ℝ} (hg : 0 < gamma) (hphi : 0 ≤ phiMax) (L : ℝ) {A : Rows ℝ}
    {h : ℝ} (hh : h ≤ nextH gamma phiMax L A) : gamma * h * peak A ≤ phiMax := by
  refine (mul_le_mul_of_nonneg_right (mul_le_mul_of_nonneg_left hh hg.le) (peak_nonneg A)).trans ?_
  rw [nextH_of_ne hg.ne', show gamma * (phiMax / (gamma * peak A)) * peak A
    = phiMax * (gamma * peak A / (gamma * peak A)) by ring]
  exact mul_le_of_le_one_right hphi (div_self_le_one _)

theorem fiber_phase_bounded {wConv kappa fs alpha b2 b3 gamma phiMax L : ℝ} {fuel : ℕ} {A : Rows ℝ} {out : Out ℝ}
    (hg : 0 < gamma) (hphi : 0 ≤ phiMax) (hL : 0 ≤ L)
    (hok : fiber wConv kappa fs alpha b2 b3 gamma phiMax L fuel A = .ok out) :
    ∀ q ∈ trace (step wConv fs (alpha / kappa) b2 b3 gamma) A out.steps,
      gamma * q.2 * peak q.1 ≤ phiMax ∧ 0 ≤ q.2 := by
  by_cases hdisp : b2 = 0 ∧ b3 = 0
  · rw [fiber_of_spm _ _ _ _ ⟨hdisp.1, hdisp.2, hg.ne'⟩] at hok
    obtain rfl := Except.ok.inj hok
    exact fun q hq => nomatch hq
  -- what holds all along: a step between 0 and the rule's
  intro q hq
  obtain ⟨hq0, hqle⟩ := (fiber_ok (fun B h => 0 ≤ h ∧ h ≤ nextH gamma phiMax L B)
    (hd := fun h => hdisp ⟨h.1, h.2.1⟩)
    (hfirst := ⟨firstH_nonneg hdisp hg hphi hL A, firstH_le_nextH hdisp hg.ne' ..⟩)
    (hiter := fun B h _ => ⟨nextH_nonneg hg hphi L _, le_rfl⟩)
    (hlast := fun B h h' hB h0 hle => ⟨h0, hle.trans hB.2⟩) hok).2.2 q hq
  exact ⟨phase_of_le hg hphi L hqle, hq0⟩

end OptiVerif.FiberNL
