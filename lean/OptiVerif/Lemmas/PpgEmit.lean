/-
Helper lemmas for C20.  Every setter sends `zipWith f channels (clamped values)` or `channels.map f` (`mem_zipWith_clamp`,
`mem_map_channels`), which gives `emit_spec`; that `get_data` reads back what `set_data` wrote is proved once, for any
blocks per channel (`getData_blocksFor`).
-/
import Mathlib.Data.List.Nodup
import OptiVerif.Lemmas.PpgData

namespace OptiVerif.Ppg
open OptiVerif.Gen.PpgLimits

/-- all commands sent to the instrument during a history of operations (failed calls send nothing) -/
def histCmds : Mem → List Op → List Command
  | _, [] => []
  | m, .req r :: ops =>
    match emit r with
    | .error _ => histCmds m ops
    | .ok o => o.cmds ++ histCmds (m.execAll o.cmds) ops
  | m, .getData n s c :: ops =>
    match getData m n s c with
    | .error _ => histCmds m ops
    | .ok o => o.cmds ++ histCmds m ops

theorem lim_pattLen : pattLenTest = (2, 2 ^ 21) ∧ pattLenClip = (2, 2 ^ 21) := by
  constructor <;> (simp only [pattLenTest, pattLenClip, PATT_LEN_MIN, PATT_LEN_MAX]; norm_num)

theorem lim_skew : skewTest = (-(25 / 10 ^ 12), 25 / 10 ^ 12) ∧ skewClip = (-(25 / 10 ^ 12), 25 / 10 ^ 12) := by
  constructor <;> (simp only [skewTest, skewClip, MIN_SKEW, MAX_SKEW]; norm_num)

theorem lim_volt : voltTest = (3 / 10, 2) ∧ voltClip = (3 / 10, 2) := by
  constructor <;> (simp only [voltTest, voltClip, AMPLITUDE_MIN, AMPLITUDE_MAX])

theorem lim_offs : offsTest = (-2, 3) ∧ offsClip = (-2, 3) := by
  constructor <;> (simp only [offsTest, offsClip, OFFSET_MIN, OFFSET_MAX])

theorem lim_freq : freqTest = (15 * 10 ^ 8, 32 * 10 ^ 9) ∧ freqClip = (15 * 10 ^ 8, 32 * 10 ^ 9) := by
  constructor <;> (simp only [freqTest, freqClip, FREQ_MIN, FREQ_MAX]; norm_num)

theorem gen_memory_int : (MAX_MEMORY_LEN : Int) = 2 ^ 21 := by rw [gen_memory]; norm_num

theorem mem_zipWith_clamp {f : Int → Rat → Command} {lo hi : Rat} (hle : lo ≤ hi) {chs : Chs} {vs : List Rat}
    {c : Command} (hc : c ∈ List.zipWith f (checkChannels chs).1 (clampAll (lo, hi) (lo, hi) vs).1) :
    ∃ ch v, ChOk ch ∧ (lo ≤ v ∧ v ≤ hi) ∧ c = f ch v := by
  obtain ⟨ch, hch, v, hv, rfl⟩ := mem_zipWith hc
  rw [clampAll_fst] at hv
  obtain ⟨x, _, rfl⟩ := List.mem_map.mp hv
  exact ⟨ch, _, checkChannels_mem chs ch hch, clipR_range hle x, rfl⟩

theorem mem_map_channels {f : Int → Command} {chs : Chs} {c : Command} (hc : c ∈ (checkChannels chs).1.map f) :
    ∃ ch, ChOk ch ∧ c = f ch := by
  obtain ⟨ch, hch, rfl⟩ := List.mem_map.mp hc
  exact ⟨ch, checkChannels_mem chs ch hch, rfl⟩

theorem mem_blocksFor {start : Int} {cs : List Int} {perCh : List (List Nat)} {c : Command}
    (hc : c ∈ blocksFor start cs perCh) :
    ∃ ch ∈ cs, ∃ bits ∈ perCh, c ∈ dataCmds ch start (chunks MAX_CHUNK_LEN bits) := by
  obtain ⟨l, hl, hcl⟩ := List.mem_flatten.mp hc
  obtain ⟨ch, hch, bits, hbits, rfl⟩ := mem_zipWith hl
  exact ⟨ch, hch, bits, hbits, hcl⟩

theorem blocksFor_in_range (start : Int) (cs : List Int) (perCh : List (List Nat)) (hcs : ∀ c ∈ cs, ChOk c) :
    ∀ c ∈ blocksFor start cs perCh, InRange c := by
  intro c hc
  obtain ⟨ch, hch, bits, _, hcl⟩ := mem_blocksFor hc
  obtain ⟨addr, b, hb, rfl, _⟩ := dataCmds_mem ch _ start c hcl
  have hl : b.length ≤ 1024 := chunks_length_le (by decide) bits b hb
  exact ⟨hcs ch hch, hl, rfl, header_ok (by omega)⟩

theorem blocksFor_addr (start : Int) (cs : List Int) (perCh : List (List Nat)) (L : Int)
    (h : ∀ bits ∈ perCh, (bits.length : Int) ≤ L) :
    ∀ c ∈ blocksFor start cs perCh, ∃ ch addr n k b, c = Command.data ch addr n k b ∧ start ≤ addr ∧
      addr + (n : Int) ≤ start + L := by
  intro c hc
  obtain ⟨ch, _, bits, hbits, hcl⟩ := mem_blocksFor hc
  obtain ⟨addr, b, _, rfl, ha1, ha2⟩ := dataCmds_mem ch _ start c hcl
  rw [chunks_flatten (by decide)] at ha2
  have := h bits hbits
  exact ⟨ch, addr, _, _, b, rfl, ha1, by omega⟩

theorem pyTake_length_le {α} (e : Int) (xs : List α) (he : 0 ≤ e) : ((pyTake e xs).length : Int) ≤ e := by
  unfold pyTake
  rw [if_pos he, List.length_take]
  omega

/-- The bound needs `0 ≤ lim`: for a negative limit Python's `data[..., :lim]` drops the last `−lim` bits instead of
    truncating (`pyTake`). -/
theorem setData_cmds (d : DataArg) (start : Int) (chs : Chs) (o : Out) (h : setData d start chs = .ok o) :
    ∃ perCh, o.cmds = blocksFor start (checkChannels chs).1 perCh ∧
      (0 ≤ (MAX_MEMORY_LEN : Int) - start + 1 →
        ∀ bits ∈ perCh, (bits.length : Int) ≤ (MAX_MEMORY_LEN : Int) - start + 1) := by
  match d with
  | .flat xs =>
    obtain rfl := Except.ok.inj h
    refine ⟨_, rfl, fun hlim bits hb => ?_⟩
    rw [List.eq_of_mem_replicate hb, List.length_map]
    split_ifs with hw
    · exact pyTake_length_le _ xs hlim
    · rwa [decide_eq_true_eq, not_lt] at hw
  | .rows [] =>
    obtain rfl := Except.ok.inj h
    refine ⟨_, rfl, fun hlim bits hb => ?_⟩
    rw [List.eq_of_mem_replicate hb]
    exact hlim
  | .rows (r :: rest) =>
    simp only [setData] at h
    split_ifs at h with hall hw
    · obtain rfl := Except.ok.inj h
      refine ⟨_, rfl, fun hlim bits hb => ?_⟩
      simp only [List.mem_map] at hb
      obtain ⟨_, ⟨row, _, rfl⟩, rfl⟩ := hb
      rw [List.length_map]
      exact pyTake_length_le _ row hlim
    · obtain rfl := Except.ok.inj h
      refine ⟨_, rfl, fun hlim bits hb => ?_⟩
      obtain ⟨row, hrow, rfl⟩ := List.mem_map.mp hb
      have hr : (r.length : Int) ≤ (MAX_MEMORY_LEN : Int) - start + 1 := by rwa [decide_eq_true_eq, not_lt] at hw
      rw [List.length_map]
      rcases List.mem_cons.mp hrow with rfl | h
      · exact hr
      · rw [List.all_eq_true] at hall
        rw [beq_iff_eq.mp (hall row h)]
        exact hr

theorem setData_error {d : DataArg} {start : Int} {chs : Chs} {e : Wire.Err} (h : setData d start chs = .error e) :
    ¬ WellTyped (.setData d start chs) := by
  match d with
  | .flat xs => cases h
  | .rows [] => cases h
  | .rows (r :: rest) =>
    rintro ⟨n, hn⟩
    have hall : (rest.all fun r' => r'.length == r.length) = true := by
      simp only [List.all_eq_true, beq_iff_eq]
      intro r' hr'
      rw [hn r' (List.mem_cons_of_mem _ hr'), hn r List.mem_cons_self]
    simp only [setData, hall, if_true, reduceCtorEq] at h

theorem setPrbsOrder_spec (v : Val) (chs : Chs) :
    (∃ x, v = .float x) ∨ ∃ o, setPrbsOrder v chs = .ok o ∧ ∀ c ∈ o.cmds, InRange c := by
  obtain ⟨cmds, w, hok, hr⟩ := orderCmds_ok (checkChannels chs).1 (expand v (checkChannels chs).1.length)
    (checkChannels_mem chs)
  cases v with
  | float x => exact Or.inl ⟨x, rfl⟩
  | int _ | list _ => exact Or.inr ⟨⟨cmds, (checkChannels chs).2 || w⟩, by simp only [setPrbsOrder, hok], hr⟩

/-- `set_freq` always sends the clipped value: the test only decides about the warning -/
theorem setFreq_one_eq (f : Rat) : setFreq.one f =
    .ok ⟨[.freq (clipR (15 * 10 ^ 8) (32 * 10 ^ 9) f)], decide (f < 15 * 10 ^ 8) || decide (32 * 10 ^ 9 < f)⟩ := by
  unfold setFreq.one
  rw [lim_freq.1, lim_freq.2]
  split_ifs with h
  · rw [h]
  · rw [Bool.not_eq_true] at h
    rw [h]
    simp only [Bool.or_eq_false_iff, decide_eq_false_iff_not, not_lt] at h
    rw [clipR_id h.1 h.2]

theorem setFreq_spec (v : Val) : (∃ xs, v = .list xs) ∨ ∃ o, setFreq v = .ok o ∧ ∀ c ∈ o.cmds, InRange c := by
  have one : ∀ f : Rat, ∃ o, setFreq.one f = .ok o ∧ ∀ c ∈ o.cmds, InRange c := fun f =>
    ⟨_, setFreq_one_eq f, fun c hc => by
      obtain rfl := List.mem_singleton.mp hc
      exact clipR_range (by norm_num) f⟩
  cases v with
  | list xs => exact Or.inl ⟨xs, rfl⟩
  | int x => exact Or.inr (one x)
  | float x => exact Or.inr (one x)

theorem emit_spec (r : Request) :
    (∃ o, emit r = .ok o ∧ ∀ c ∈ o.cmds, InRange c) ∨ (¬ WellTyped r ∧ ∃ e, emit r = .error e) := by
  cases r with
  | pattLen v chs =>
    cases v with
    | float x => exact Or.inr ⟨id, _, rfl⟩
    | int _ | list _ =>
      refine Or.inl ⟨_, rfl, fun c hc => ?_⟩
      rw [lim_pattLen.1, lim_pattLen.2] at hc
      obtain ⟨ch, x, hch, hx, rfl⟩ := mem_zipWith_clamp (by norm_num) hc
      exact ⟨hch, hx⟩
  | prbsOrder v chs =>
    rcases setPrbsOrder_spec v chs with ⟨x, rfl⟩ | h
    · exact Or.inr ⟨id, _, rfl⟩
    · exact Or.inl h
  | bitsShift v chs =>
    refine Or.inl ⟨_, rfl, fun c hc => ?_⟩
    obtain ⟨ch, hch, x, _, rfl⟩ := mem_zipWith hc
    exact checkChannels_mem chs ch hch
  | skew v chs =>
    refine Or.inl ⟨_, rfl, fun c hc => ?_⟩
    rw [lim_skew.1, lim_skew.2] at hc
    obtain ⟨ch, x, hch, hx, rfl⟩ := mem_zipWith_clamp (by norm_num) hc
    exact ⟨hch, hx⟩
  | voltage v chs =>
    refine Or.inl ⟨_, rfl, fun c hc => ?_⟩
    rw [lim_volt.1, lim_volt.2] at hc
    obtain ⟨ch, x, hch, hx, rfl⟩ := mem_zipWith_clamp (by norm_num) hc
    exact ⟨hch, hx⟩
  | offset v chs =>
    refine Or.inl ⟨_, rfl, fun c hc => ?_⟩
    rw [lim_offs.1, lim_offs.2] at hc
    obtain ⟨ch, x, hch, hx, rfl⟩ := mem_zipWith_clamp (by norm_num) hc
    split_ifs with hneg
    · exact ⟨hch, hx.1, hneg⟩
    · exact ⟨hch, not_lt.mp hneg, hx.2⟩
  | freq v =>
    rcases setFreq_spec v with ⟨xs, rfl⟩ | h
    · exact Or.inr ⟨id, _, rfl⟩
    · exact Or.inl h
  | mode m chs =>
    cases m with
    | other => exact Or.inr ⟨id, _, rfl⟩
    | data | prbs =>
      refine Or.inl ⟨_, rfl, fun c hc => ?_⟩
      obtain ⟨ch, hch, rfl⟩ := mem_map_channels hc
      exact hch
  | outputs on chs =>
    refine Or.inl ⟨_, rfl, fun c hc => ?_⟩
    obtain ⟨ch, hch, rfl⟩ := mem_map_channels hc
    exact hch
  | setData d start chs =>
    cases hd : setData d start chs with
    | ok o =>
      obtain ⟨perCh, ho, _⟩ := setData_cmds d start chs o hd
      exact Or.inl ⟨o, hd, ho ▸ blocksFor_in_range _ _ _ (checkChannels_mem chs)⟩
    | error e =>
      exact Or.inr ⟨setData_error hd, e, hd⟩
  | get q chs =>
    refine Or.inl ⟨_, rfl, fun c hc => ?_⟩
    obtain ⟨ch, hch, rfl⟩ := mem_map_channels hc
    exact hch
  | getFreq => exact Or.inl ⟨_, rfl, fun c hc => List.mem_singleton.mp hc ▸ trivial⟩
  | reset => exact Or.inl ⟨_, rfl, fun c hc => List.mem_singleton.mp hc ▸ trivial⟩

theorem getArgs_clip (size start : Int) :
    (getArgs size start).2.1 = clipI 1 MAX_MEMORY_LEN start ∧
    (getArgs size start).1 = (clipI 1 (MAX_MEMORY_LEN - clipI 1 MAX_MEMORY_LEN start + 1) size).toNat := by
  -- `MAX_MEMORY_LEN` stays as it stands in `getArgs`: rewriting it first leaves `Decidable` instances behind that do
  -- not match `ite_clipI`
  constructor <;> simp only [getArgs, ite_clipI]

theorem getArgs_id (size start : Int) (h1 : 1 ≤ start) (h2 : start ≤ 2 ^ 21) (h3 : 1 ≤ size)
    (h4 : size ≤ 2 ^ 21 - start + 1) : getArgs size start = (size.toNat, start, false) := by
  have hM := gen_memory_int
  have e1 : (decide (start < 1) || decide ((MAX_MEMORY_LEN : Int) < start)) = false := by
    rw [Bool.or_eq_false_iff, decide_eq_false_iff_not, decide_eq_false_iff_not]; omega
  have e2 : (decide (size < 1) || decide ((MAX_MEMORY_LEN : Int) - start + 1 < size)) = false := by
    rw [Bool.or_eq_false_iff, decide_eq_false_iff_not, decide_eq_false_iff_not]; omega
  simp only [getArgs, e1, Bool.false_eq_true, if_false, e2, Bool.or_self]

theorem getData_ok (m : Mem) (size start : Int) (chs : Chs) : ∃ o, getData m size start chs = .ok o ∧
    (∀ c ∈ o.cmds, InRange c) ∧
    o.warned = ((checkChannels chs).2 || (getArgs size start).2.2) ∧
    o.data = (checkChannels chs).1.map
      (fun ch => (m.read ch (getArgs size start).2.1 (getArgs size start).1).map norm) := by
  unfold getData
  simp only
  have hcnt : ∀ n ∈ counts (getArgs size start).1, n ≤ 1024 := fun n hn => (counts_mem hn).1
  rw [mapM'_eq_mapM, mapM_except_ok _ (fun ch => (m.read ch (getArgs size start).2.1 (getArgs size start).1).map norm) _ fun ch _ => by
    rw [readBlocks_eq m ch _ _ fun n hn => lt_of_le_of_lt (hcnt n hn) (by decide), counts_sum]]
  refine ⟨_, rfl, ?_, rfl, rfl⟩
  intro c hc
  simp only [List.mem_flatten, List.mem_map] at hc
  obtain ⟨l, ⟨ch, hch, rfl⟩, hcl⟩ := hc
  obtain ⟨addr, n, hn, rfl⟩ := dataQueries_mem ch _ _ c hcl
  exact ⟨checkChannels_mem chs ch hch, hcnt n hn⟩

theorem blocksFor_replicate (start : Int) (cs : List Int) (B : List Nat) :
    blocksFor start cs (List.replicate cs.length B) =
      (cs.map (fun ch => dataCmds ch start (chunks MAX_CHUNK_LEN B))).flatten := by
  unfold blocksFor
  rw [← List.map_const', List.zipWith_map_right, List.zipWith_self]

theorem setData_flat_eq_ok (xs : List Int) (start : Int) (chs : Chs)
    (h4 : (xs.length : Int) ≤ 2 ^ 21 - start + 1) :
    setData (.flat xs) start chs = .ok ⟨blocksFor start (checkChannels chs).1
      (List.replicate (checkChannels chs).1.length (xs.map bit)), (checkChannels chs).2⟩ := by
  have hw : decide ((MAX_MEMORY_LEN : Int) - start + 1 < (xs.length : Int)) = false := by
    rw [decide_eq_false_iff_not, gen_memory_int]; omega
  simp only [setData, hw, Bool.false_eq_true, if_false, Bool.or_false]

theorem setData_rows_eq_ok (r : List Int) (rest : List (List Int)) (start : Int) (chs : Chs)
    (hall : ∀ r' ∈ rest, r'.length = r.length) (h4 : (r.length : Int) ≤ 2 ^ 21 - start + 1) :
    setData (.rows (r :: rest)) start chs =
      .ok ⟨blocksFor start (checkChannels chs).1 ((r :: rest).map (·.map bit)), (checkChannels chs).2⟩ := by
  have ha : (rest.all fun r' => r'.length == r.length) = true := by
    simp only [List.all_eq_true, beq_iff_eq]
    exact hall
  have hw : decide ((MAX_MEMORY_LEN : Int) - start + 1 < (r.length : Int)) = false := by
    rw [decide_eq_false_iff_not, gen_memory_int]; omega
  simp only [setData, ha, if_true, hw, Bool.false_eq_true, if_false, Bool.or_false]

/-- `hfun`: a channel selected twice gets the same block both times (1-D data: all blocks are equal; 2-D data: the
    channels are pairwise different) -/
theorem getData_blocksFor (m : Mem) (start : Int) (chs : Chs) (perCh : List (List Nat)) (n : Nat)
    (h1 : 1 ≤ start) (h2 : start ≤ 2 ^ 21) (h3 : 1 ≤ n) (h4 : (n : Int) ≤ 2 ^ 21 - start + 1)
    (hlen : perCh.length = (checkChannels chs).1.length)
    (hB : ∀ B ∈ perCh, B.length = n ∧ B.map norm = B)
    (hfun : ∀ c B B', (c, B) ∈ (checkChannels chs).1.zip perCh → (c, B') ∈ (checkChannels chs).1.zip perCh → B' = B) :
    ∃ g, getData (m.execAll (blocksFor start (checkChannels chs).1 perCh)) n start chs = .ok g ∧
      g.data = perCh ∧ g.warned = (checkChannels chs).2 := by
  obtain ⟨g, hg, _, hw, hd⟩ := getData_ok (m.execAll (blocksFor start (checkChannels chs).1 perCh)) n start chs
  rw [getArgs_id _ _ h1 h2 (by omega) h4] at hw hd
  refine ⟨g, hg, ?_, hw.trans (Bool.or_false _)⟩
  rw [hd, Mem.execAll_blocksFor]
  apply List.ext_getElem
  · rw [List.length_map, hlen]
  · intro i _ hi'
    have hmem : (((checkChannels chs).1)[i]'(hlen ▸ hi'), perCh[i]) ∈ (checkChannels chs).1.zip perCh := by
      rw [← List.getElem_zip (h := by rw [List.length_zip]; omega)]
      exact List.getElem_mem _
    obtain ⟨hn, hnorm⟩ := hB _ (List.getElem_mem hi')
    have := Mem.read_writePairs start _ m _ _ hmem fun B' h => hfun _ _ B' hmem h
    rw [hn] at this
    simp only [List.getElem_map, Int.toNat_natCast, this, hnorm]

theorem map_norm_map_bit (xs : List Int) : (xs.map bit).map norm = xs.map bit := by
  rw [List.map_map]
  exact List.map_congr_left fun x _ => norm_bit x

theorem roundtrip (m : Mem) (xs : List Int) (start : Int) (chs : Chs)
    (h1 : 1 ≤ start) (h2 : start ≤ 2 ^ 21) (h3 : 1 ≤ xs.length) (h4 : (xs.length : Int) ≤ 2 ^ 21 - start + 1) :
    ∃ o g, setData (.flat xs) start chs = .ok o ∧
      getData (m.execAll o.cmds) xs.length start chs = .ok g ∧
      g.data = List.replicate (checkChannels chs).1.length (xs.map bit) ∧
      o.warned = (checkChannels chs).2 ∧ g.warned = (checkChannels chs).2 := by
  have hrep : ∀ B ∈ List.replicate (checkChannels chs).1.length (xs.map bit), B = xs.map bit :=
    fun B hB => List.eq_of_mem_replicate hB
  obtain ⟨g, hg, hd, hw⟩ := getData_blocksFor m start chs _ xs.length h1 h2 h3 h4 List.length_replicate
    (fun B hB => by rw [hrep B hB, List.length_map]; exact ⟨rfl, map_norm_map_bit xs⟩)
    (fun c B B' hB hB' => by rw [hrep B (List.of_mem_zip hB).2, hrep B' (List.of_mem_zip hB').2])
  exact ⟨_, g, setData_flat_eq_ok xs start chs h4, hg, hd, rfl, hw⟩

theorem roundtrip2d (m : Mem) (r : List Int) (rest : List (List Int)) (start : Int) (chs : Chs)
    (hnd : (checkChannels chs).1.Nodup) (hlen : (checkChannels chs).1.length = (r :: rest).length)
    (hall : ∀ r' ∈ rest, r'.length = r.length)
    (h1 : 1 ≤ start) (h2 : start ≤ 2 ^ 21) (h3 : 1 ≤ r.length) (h4 : (r.length : Int) ≤ 2 ^ 21 - start + 1) :
    ∃ o g, setData (.rows (r :: rest)) start chs = .ok o ∧
      getData (m.execAll o.cmds) r.length start chs = .ok g ∧
      g.data = (r :: rest).map (·.map bit) ∧ o.warned = (checkChannels chs).2 ∧ g.warned = (checkChannels chs).2 := by
  obtain ⟨g, hg, hd, hw⟩ := getData_blocksFor m start chs ((r :: rest).map (·.map bit)) r.length h1 h2 h3 h4
    (by rw [List.length_map, hlen])
    (fun B hB => by
      obtain ⟨row, hrow, rfl⟩ := List.mem_map.mp hB
      rw [List.length_map]
      refine ⟨?_, map_norm_map_bit row⟩
      rcases List.mem_cons.mp hrow with rfl | h
      · rfl
      · exact hall _ h)
    (fun c B B' hB hB' => by
      have hnd' : (((checkChannels chs).1.zip ((r :: rest).map (·.map bit))).map Prod.fst).Nodup := by
        rw [List.map_fst_zip (by rw [List.length_map, hlen])]
        exact hnd
      exact (Prod.ext_iff.mp (List.inj_on_of_nodup_map hnd' hB' hB rfl)).2)
  exact ⟨_, g, setData_rows_eq_ok r rest start chs hall h4, hg, hd, rfl, hw⟩

end OptiVerif.Ppg
