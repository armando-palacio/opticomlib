/-
The frequency response `retH` at ℝ, and its meaning for the recursion: a steady-state complex exponential of ratio u
leaves the cascade multiplied by H(w), w = u⁻¹, and forward–backward by H(w)·H(u).
-/
import OptiVerif.Lemmas.Filter
import OptiVerif.Lemmas.NumReal
import OptiVerif.Lemmas.Shift

namespace OptiVerif.Filter
open OptiVerif.Fourier

@[simp] theorem length_respGrid (secs : List (Sec ℝ)) (n : ℕ) : (respGrid secs n).length = n := by
  simp [respGrid]

@[simp] theorem length_retH (secs : List (Sec ℝ)) (n : ℕ) : (retH secs n).length = n := by
  simp [retH, length_fftshift]

theorem getElem_respGrid (secs : List (Sec ℝ)) (n k : ℕ) (h : k < (respGrid secs n).length) :
    (respGrid secs n)[k] = sosResp secs (gridW n k) := by
  simp [respGrid]

theorem getElem_retH (secs : List (Sec ℝ)) (n i : ℕ) (h : i < (retH secs n).length) :
    (retH secs n)[i] = sosResp secs (gridW n ((i + (n - n / 2)) % n)) := by
  simp only [retH, getElem_fftshift, length_respGrid, getElem_respGrid]

theorem cone_eq : (cone : Cx ℝ) = ⟨1, 0⟩ := by simp [cone]

theorem mul_cone (a : Cx ℝ) : a * cone = a := by rw [cone_eq, Cx.mul_one']

theorem cone_mul (a : Cx ℝ) : cone * a = a := by rw [cone_eq, Cx.one_mul']

theorem cis_mul_cis_neg (θ : ℝ) : (Cx.cis θ : Cx ℝ) * Cx.cis (-θ) = cone := by
  rw [Cx.cis_add, add_neg_cancel, Cx.cis_zero, cone_eq]

theorem toC_cone : (cone : Cx ℝ).toC = 1 := by
  apply Complex.ext <;> simp [cone_eq]

/-- also for b = 0, where both sides are 0 -/
theorem toC_cdiv (a b : Cx ℝ) : (cdiv a b).toC = a.toC / b.toC := by
  apply Complex.ext
  · simp only [cdiv, Cx.toC_re, Complex.div_re, Cx.toC_im, Cx.toC_normSq, add_div]
  · simp only [cdiv, Cx.toC_re, Complex.div_im, Cx.toC_im, Cx.toC_normSq, sub_div]

theorem toC_secNum (c : Sec ℝ) (w : Cx ℝ) : (secNum c w).toC = c.b0 + c.b1 * w.toC + c.b2 * (w.toC * w.toC) := by
  simp only [secNum, Cx.toC_add, Cx.toC_smul', Cx.toC_mul, Cx.toC_ofReal]

theorem toC_secDen (c : Sec ℝ) (w : Cx ℝ) : (secDen c w).toC = 1 + c.a1 * w.toC + c.a2 * (w.toC * w.toC) := by
  simp only [secDen, Cx.toC_add, Cx.toC_smul', Cx.toC_mul, toC_cone]

theorem toC_secResp (c : Sec ℝ) (w : Cx ℝ) :
    (secResp c w).toC
      = (c.b0 + c.b1 * w.toC + c.b2 * (w.toC * w.toC)) / (1 + c.a1 * w.toC + c.a2 * (w.toC * w.toC)) := by
  rw [secResp, toC_cdiv, toC_secNum, toC_secDen]

theorem cdiv_mul_cancel (a b : Cx ℝ) (hb : b.normSq ≠ 0) : cdiv a b * b = a := by
  apply Cx.toC_injective
  rw [Cx.toC_mul, toC_cdiv, div_mul_cancel₀]
  rwa [Cx.toC_normSq, Ne, Complex.normSq_eq_zero] at hb

theorem secDen_conj (c : Sec ℝ) (w : Cx ℝ) : secDen c (Cx.conj w) = Cx.conj (secDen c w) := by
  apply Cx.toC_injective
  simp only [toC_secDen, Cx.toC_conj, map_add, map_mul, map_one, Complex.conj_ofReal]

theorem secResp_conj (c : Sec ℝ) (w : Cx ℝ) : secResp c (Cx.conj w) = Cx.conj (secResp c w) := by
  apply Cx.toC_injective
  simp only [toC_secResp, Cx.toC_conj, map_div₀, map_add, map_mul, map_one, Complex.conj_ofReal]

theorem sosResp_conj : ∀ (secs : List (Sec ℝ)) (w : Cx ℝ), sosResp secs (Cx.conj w) = Cx.conj (sosResp secs w)
  | [], _ => by simp [sosResp, cone_eq, Cx.conj]
  | c :: cs, w => by simp only [sosResp, secResp_conj, sosResp_conj cs w, Cx.conj_mul]

/-- `k ≤ n`, not `<`: k = 0 mirrors to n -/
theorem gridW_mirror (n k : ℕ) (hn : 0 < n) (hk : k ≤ n) : (gridW n (n - k) : Cx ℝ) = Cx.conj (gridW n k) := by
  have hn' : (n : ℝ) ≠ 0 := by exact_mod_cast hn.ne'
  have e : (ang n (n - k) : ℝ) = 2 * Real.pi - ang n k := by
    rw [ang_real, ang_real, Nat.cast_sub hk, mul_sub, sub_div, mul_div_cancel_right₀ _ hn']
  rw [gridW, gridW, e, neg_sub, Cx.cis_neg, Cx.conj_conj]
  simp only [Cx.cis, Transc.cos_real, Transc.sin_real, Real.cos_sub_two_pi, Real.sin_sub_two_pi]

theorem gridW_zero (n : ℕ) : (gridW n 0 : Cx ℝ) = cone := by
  simp [gridW, ang, Cx.cis, cone_eq]

/-- also for Σa = 0, where `dcGain` and `cdiv` both give 0 -/
theorem secResp_one (c : Sec ℝ) : secResp c cone = ⟨dcGain c, 0⟩ := by
  apply Cx.toC_injective
  rw [toC_secResp, toC_cone, show (⟨dcGain c, 0⟩ : Cx ℝ).toC = ((dcGain c : ℝ) : ℂ) from rfl, dcGain]
  push_cast
  ring

theorem sosResp_one : ∀ secs : List (Sec ℝ), sosResp secs cone = ⟨gainProd secs, 0⟩
  | [] => by simp [sosResp, gainProd, cone_eq]
  | c :: cs => by
    rw [sosResp, secResp_one, sosResp_one cs]
    apply Cx.ext <;> simp [gainProd]

theorem retH_centre_add (secs : List (Sec ℝ)) (n j : ℕ) (h : n / 2 + j < n) :
    (retH secs n)[n / 2 + j]? = some (sosResp secs (gridW n j)) := by
  have e : n / 2 + j + (n - n / 2) = j + n := by
    rw [Nat.add_right_comm, Nat.add_sub_of_le (Nat.div_le_self n 2), Nat.add_comm]
  rw [List.getElem?_eq_getElem (by simpa using h), getElem_retH, e, Nat.add_mod_right,
    Nat.mod_eq_of_lt ((Nat.le_add_left j _).trans_lt h)]

theorem retH_centre_sub (secs : List (Sec ℝ)) (n j : ℕ) (hj : 0 < j) (h : j ≤ n / 2) :
    (retH secs n)[n / 2 - j]? = some (sosResp secs (gridW n (n - j))) := by
  have hn : 0 < n := (hj.trans_le h).trans_le (Nat.div_le_self n 2)
  have e : n / 2 - j + (n - n / 2) = n - j := by
    rw [← Nat.sub_add_comm h, Nat.add_sub_of_le (Nat.div_le_self n 2)]
  have hi : n / 2 - j < (retH secs n).length := by
    rw [length_retH]; exact (Nat.sub_le _ _).trans_lt (Nat.div_lt_self hn one_lt_two)
  rw [List.getElem?_eq_getElem hi, getElem_retH, e, Nat.mod_eq_of_lt (Nat.sub_lt hn hj)]

theorem retH_centre (secs : List (Sec ℝ)) (n : ℕ) (hn : 0 < n) : (retH secs n)[n / 2]? = some ⟨gainProd secs, 0⟩ := by
  rw [← sosResp_one, ← gridW_zero n]
  exact retH_centre_add secs n 0 (Nat.div_lt_self hn one_lt_two)

/- Complex samples go through the real recursion as (re, im) pairs, as in `filtCoreCx`; `secRunCx` is that pairing for one
section and an arbitrary complex state. -/

def secRunCx (c : Sec ℝ) (z0 z1 : Cx ℝ) (xs : List (Cx ℝ)) : List (Cx ℝ) :=
  List.zipWith Cx.mk (secRun c (z0.re, z1.re) (xs.map Cx.re)) (secRun c (z0.im, z1.im) (xs.map Cx.im))

theorem secRunCx_nil (c : Sec ℝ) (z0 z1 : Cx ℝ) : secRunCx c z0 z1 [] = [] := rfl

theorem secRunCx_cons (c : Sec ℝ) (z0 z1 x : Cx ℝ) (xs : List (Cx ℝ)) :
    secRunCx c z0 z1 (x :: xs) =
      (Cx.smul c.b0 x + z0) ::
        secRunCx c (Cx.smul c.b1 x - Cx.smul c.a1 (Cx.smul c.b0 x + z0) + z1)
          (Cx.smul c.b2 x - Cx.smul c.a2 (Cx.smul c.b0 x + z0)) xs :=
  rfl

/-- the samples A, A·u, A·u², … (M of them) -/
def expSeq (u : Cx ℝ) : Cx ℝ → ℕ → List (Cx ℝ)
  | _, 0 => []
  | A, M + 1 => A :: expSeq u (A * u) M

@[simp] theorem length_expSeq (u : Cx ℝ) : ∀ (A : Cx ℝ) (M : ℕ), (expSeq u A M).length = M
  | _, 0 => rfl
  | A, M + 1 => by simp [expSeq, length_expSeq u (A * u) M]

/-- steady state of section `c` for the exponential of current amplitude A (w = u⁻¹, H its response) -/
def expZ0 (c : Sec ℝ) (H A : Cx ℝ) : Cx ℝ := (H - Cx.ofReal c.b0) * A
def expZ1 (c : Sec ℝ) (H w A : Cx ℝ) : Cx ℝ := (Cx.ofReal c.b2 - Cx.smul c.a2 H) * A * w

/-- A comes out as H·A and the state moves on to that of amplitude A·u: `z1' = (b2 − a2·H)·A`
    is `expZ1 (A·u)` as u·w = 1; `z0' = expZ0 (A·u)` is `H·secDen w = secNum w` times `A·u` -/
theorem secRunCx_exp_cons (c : Sec ℝ) (u w H : Cx ℝ) (huw : u * w = cone) (hH : H * secDen c w = secNum c w)
    (A : Cx ℝ) (xs : List (Cx ℝ)) :
    secRunCx c (expZ0 c H A) (expZ1 c H w A) (A :: xs)
      = H * A :: secRunCx c (expZ0 c H (A * u)) (expZ1 c H w (A * u)) xs := by
  have huw' : u.toC * w.toC = 1 := by rw [← Cx.toC_mul, huw, toC_cone]
  have hH' : H.toC * (1 + (c.a1 : ℂ) * w.toC + (c.a2 : ℂ) * (w.toC * w.toC))
      = (c.b0 : ℂ) + (c.b1 : ℂ) * w.toC + (c.b2 : ℂ) * (w.toC * w.toC) := by
    rw [← toC_secDen, ← toC_secNum, ← Cx.toC_mul, hH]
  have key : Cx.smul c.b0 A + expZ0 c H A = H * A
      ∧ Cx.smul c.b1 A - Cx.smul c.a1 (H * A) + expZ1 c H w A = expZ0 c H (A * u)
      ∧ Cx.smul c.b2 A - Cx.smul c.a2 (H * A) = expZ1 c H w (A * u) := by
    refine ⟨?_, ?_, ?_⟩ <;> apply Cx.toC_injective <;>
      simp only [expZ0, expZ1, Cx.toC_add, Cx.toC_mul, Cx.toC_sub, Cx.toC_smul', Cx.toC_ofReal]
    -- eliminate b0, b1, b2 with `hH'`, then use u·w = 1
    · ring
    · linear_combination (-(A.toC * u.toC)) * hH' - (A.toC * ((c.b2 : ℂ) * w.toC + (c.b1 : ℂ)
        - H.toC * (c.a1 : ℂ) - H.toC * (c.a2 : ℂ) * w.toC)) * huw'
    · linear_combination (-(A.toC * ((c.b2 : ℂ) - (c.a2 : ℂ) * H.toC))) * huw'
  rw [secRunCx_cons, key.1, key.2.1, key.2.2]

theorem secRunCx_exp (c : Sec ℝ) (u w H : Cx ℝ) (huw : u * w = cone) (hH : H * secDen c w = secNum c w) :
    ∀ (M : ℕ) (A : Cx ℝ),
      secRunCx c (expZ0 c H A) (expZ1 c H w A) (expSeq u A M) = expSeq u (H * A) M
  | 0, _ => rfl
  | M + 1, A => by
    rw [expSeq, secRunCx_exp_cons c u w H huw hH, secRunCx_exp c u w H huw hH M (A * u), expSeq, Cx.mul_assoc']

/-- the loop of `sosfilt` on complex samples with the states supplied (`sosfilt` ties them to `zi·s`; no lemma relates the
    two): section i starts in `expZ0/expZ1` for the amplitude that reaches it -/
noncomputable def cascadeCx (u w : Cx ℝ) : List (Sec ℝ) → Cx ℝ → List (Cx ℝ) → List (Cx ℝ)
  | [], _, xs => xs
  | c :: cs, A, xs =>
    cascadeCx u w cs (secResp c w * A) (secRunCx c (expZ0 c (secResp c w) A) (expZ1 c (secResp c w) w A) xs)

theorem cascadeCx_exp (u w : Cx ℝ) (huw : u * w = cone) (M : ℕ) :
    ∀ (secs : List (Sec ℝ)) (A : Cx ℝ), (∀ c ∈ secs, (secDen c w).normSq ≠ 0) →
      cascadeCx u w secs A (expSeq u A M) = expSeq u (sosResp secs w * A) M
  | [], A, _ => by rw [cascadeCx, sosResp, cone_mul]
  | c :: cs, A, h => by
    have hH : secResp c w * secDen c w = secNum c w := cdiv_mul_cancel _ _ (h c (by simp))
    simp only [cascadeCx, secRunCx_exp c u w _ huw hH M A]
    rw [cascadeCx_exp u w huw M cs _ (fun c' hc' => h c' (by simp [hc']))]
    simp only [sosResp]
    rw [Cx.mul_comm' (secResp c w) (sosResp cs w), Cx.mul_assoc']

/-- uⁿ; `Cx ℝ` has no `Monoid` -/
def cpow (u : Cx ℝ) : ℕ → Cx ℝ
  | 0 => cone
  | n + 1 => cpow u n * u

theorem cpow_succ' (u : Cx ℝ) (M : ℕ) : cpow u (M + 1) = u * cpow u M := by rw [cpow, Cx.mul_comm']

theorem cpow_mul_cpow {u w : Cx ℝ} (huw : u * w = cone) : ∀ M, cpow u M * cpow w M = cone
  | 0 => mul_cone _
  | M + 1 => by
    rw [cpow, cpow_succ' w, Cx.mul_assoc', ← Cx.mul_assoc' u, huw, cone_mul, cpow_mul_cpow huw M]

theorem expSeq_snoc (u : Cx ℝ) : ∀ (M : ℕ) (A : Cx ℝ), expSeq u A (M + 1) = expSeq u A M ++ [A * cpow u M]
  | 0, A => by
    simp only [expSeq, cpow, List.nil_append, mul_cone]
  | M + 1, A => by
    rw [expSeq, expSeq_snoc u M (A * u), Cx.mul_assoc', ← cpow_succ']
    simp only [expSeq, List.cons_append]

theorem reverse_expSeq (u w : Cx ℝ) (huw : u * w = cone) : ∀ (M : ℕ) (A : Cx ℝ),
    (expSeq u A (M + 1)).reverse = expSeq w (A * cpow u M) (M + 1)
  | 0, A => by
    simp only [expSeq, cpow, List.reverse_cons, List.reverse_nil, List.nil_append, mul_cone]
  | M + 1, A => by
    rw [expSeq, List.reverse_cons, reverse_expSeq u w huw M (A * u), expSeq_snoc w (M + 1), Cx.mul_assoc' A,
      ← cpow_succ', Cx.mul_assoc', cpow_mul_cpow huw, mul_cone]

/-- the reversed record is an exponential of ratio w, whose own z⁻¹ is u; the backward cascade starts from the amplitude
    `H(w)·A·u^M` of the last forward sample -/
theorem two_pass_exp (u w : Cx ℝ) (huw : u * w = cone) (secs : List (Sec ℝ)) (M : ℕ) (A : Cx ℝ)
    (hw : ∀ c ∈ secs, (secDen c w).normSq ≠ 0) (hu : ∀ c ∈ secs, (secDen c u).normSq ≠ 0) :
    (cascadeCx w u secs (sosResp secs w * A * cpow u M)
        (cascadeCx u w secs A (expSeq u A (M + 1))).reverse).reverse
      = expSeq u (sosResp secs u * sosResp secs w * A) (M + 1) := by
  have hwu : w * u = cone := by rw [Cx.mul_comm', huw]
  rw [cascadeCx_exp u w huw (M + 1) secs A hw, reverse_expSeq u w huw M,
    cascadeCx_exp w u hwu (M + 1) secs _ hu, reverse_expSeq w u hwu M]
  simp only [Cx.mul_assoc', cpow_mul_cpow huw, mul_cone]

end OptiVerif.Filter
