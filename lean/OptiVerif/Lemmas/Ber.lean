/-
Helper lemmas for C13: the generic model `Model/Ber.lean` read at `R := ℝ`.  `np.linspace` is the affine image of the weights
`k/(n-1) ∈ [0,1]` and `np.min` is `List.min?`; what C13 says of minima over a grid follows from these two.
-/
import OptiVerif.Lemmas.Guard
import OptiVerif.Lemmas.IteOrder
import OptiVerif.Model.Ber
import OptiVerif.Lemmas.ConvReal
import OptiVerif.Lemmas.QSpec

namespace OptiVerif.Ber

theorem QSpec.pow_compl_mem {Q : ℝ → ℝ} (h : QSpec Q) (b : ℝ) (k : ℕ) : 0 ≤ (1 - Q b) ^ k ∧ (1 - Q b) ^ k ≤ 1 :=
  ⟨pow_nonneg (sub_nonneg.mpr (h.le_one b)) k,
    pow_le_one₀ (sub_nonneg.mpr (h.le_one b)) (sub_le_self 1 (h.nonneg b))⟩

@[simp] theorem lit_real (n : ℕ) : (lit n : ℝ) = (n : ℝ) := rfl
theorem half_real : (half : ℝ) = 1 / 2 := Conv.half_real
theorem ofRat_real (q : ℚ) : (ofRat q : ℝ) = (q : ℝ) := (Rat.cast_def q).symm

theorem powNat_real (x : ℝ) (k : ℕ) : powNat x k = x ^ k := by
  induction k with
  | zero => simp [powNat]
  | succ k ih => simp [powNat, ih, pow_succ]

theorem idb_real (x : ℝ) : idb x = (10 : ℝ) ^ (x / 10) := Conv.idb_eq x
theorem idb_pos (x : ℝ) : 0 < (idb x : ℝ) := Conv.idb_pos x

/-- the weights `k/(n-1)` (`0/0 = 0` for `n = 1`) do not depend on the ends -/
theorem linspace_eq (a b : ℝ) (n : ℕ) :
    linspace a b n = (List.range n).map fun k : ℕ => a + (k : ℝ) / ((n : ℝ) - 1) * (b - a) := by
  match n with
  | 0 => rfl
  | 1 =>
    rw [List.range_one, List.map_singleton, Nat.cast_zero, zero_div, zero_mul, add_zero]
    rfl
  | m + 2 =>
    have hm : ((m + 2 : ℕ) : ℝ) - 1 = ((m + 1 : ℕ) : ℝ) := by rw [Nat.cast_succ (m + 1), add_sub_cancel_right]
    rw [hm, List.range_succ (n := m + 1), List.map_append, List.map_singleton,
      div_self (Nat.cast_ne_zero.mpr m.succ_ne_zero)]
    simp only [linspace]
    congr 1
    · apply List.map_congr_left
      intro k _
      ring
    · ring_nf

theorem length_linspace (a b : ℝ) (n : ℕ) : (linspace a b n).length = n := by
  rw [linspace_eq, List.length_map, List.length_range]

theorem linspace_weight_mem {n k : ℕ} (hk : k < n) : 0 ≤ (k : ℝ) / ((n : ℝ) - 1) ∧ (k : ℝ) / ((n : ℝ) - 1) ≤ 1 := by
  have h : (k : ℝ) ≤ (n : ℝ) - 1 := by
    rw [le_sub_iff_add_le]
    exact_mod_cast hk
  have h0 : (0 : ℝ) ≤ (k : ℝ) := Nat.cast_nonneg k
  exact ⟨div_nonneg h0 (h0.trans h), div_le_one_of_le₀ h (h0.trans h)⟩

theorem linspace_mem_Icc (a b : ℝ) (hab : a ≤ b) (n : ℕ) : ∀ r ∈ linspace a b n, r ∈ Set.Icc a b := by
  intro r hr
  rw [linspace_eq, List.mem_map] at hr
  obtain ⟨k, hk, rfl⟩ := hr
  obtain ⟨h0, h1⟩ := linspace_weight_mem (List.mem_range.mp hk)
  have hba := sub_nonneg.mpr hab
  exact ⟨le_add_of_nonneg_right (mul_nonneg h0 hba),
    (add_le_add_right (mul_le_of_le_one_left hba h1) a).trans_eq (add_sub_cancel a b)⟩

theorem left_mem_linspace (a b : ℝ) {n : ℕ} (hn : 0 < n) : a ∈ linspace a b n := by
  rw [linspace_eq]
  exact List.mem_map.mpr ⟨0, List.mem_range.mpr hn, by rw [Nat.cast_zero, zero_div, zero_mul, add_zero]⟩

theorem linspace_shift (a b d : ℝ) (n : ℕ) : linspace (a + d) (b + d) n = (linspace a b n).map (· + d) := by
  rw [linspace_eq, linspace_eq, List.map_map]
  apply List.map_congr_left
  intro k _
  simp only [Function.comp]
  ring

theorem linspace_reverse (a b : ℝ) (n : ℕ) (hn : 2 ≤ n) :
    (linspace a b n).reverse = (linspace a b n).map fun r => a + b - r := by
  have hn1 : (n : ℝ) - 1 ≠ 0 := sub_ne_zero.mpr (Nat.cast_ne_one.mpr (by omega))
  rw [linspace_eq, ← List.map_reverse, List.range_eq_range', List.reverse_range', List.map_map, List.map_map,
    ← List.range_eq_range']
  apply List.map_congr_left
  intro k hk
  -- the weights satisfy `c_{n-1-k} = 1 - c_k`
  have hk' : k ≤ n - 1 := by have := List.mem_range.mp hk; omega
  simp only [Function.comp, zero_add]
  rw [Nat.cast_sub hk', Nat.cast_sub (by omega), Nat.cast_one, sub_div, div_self hn1]
  ring

/-- over ℝ only: at `Float` the model's fold skips a NaN that is not the first element, where `np.min` returns it -/
theorem minL_eq_min? : ∀ l : List ℝ, minL l = l.min?
  | [] => rfl
  | x :: xs => foldl_ite_eq_min? x xs

theorem minL_eq_some_iff {l : List ℝ} {v : ℝ} : minL l = some v ↔ v ∈ l ∧ ∀ x ∈ l, v ≤ x := by
  rw [minL_eq_min?, List.min?_eq_some_iff]

theorem minL_isSome {l : List ℝ} (h : l ≠ []) : ∃ v, minL l = some v := by
  rw [minL_eq_min?]
  exact Option.isSome_iff_exists.mp (List.isSome_min?_of_ne_nil h)

theorem le_minL {l : List ℝ} {v m : ℝ} (h : minL l = some v) (hm : ∀ x ∈ l, m ≤ x) : m ≤ v :=
  hm v (minL_eq_some_iff.mp h).1

theorem minL_map_eq_some {ι : Type} {l : List ι} {f : ι → ℝ} {v : ℝ} (h : minL (l.map f) = some v) :
    (∃ i ∈ l, f i = v) ∧ ∀ i ∈ l, v ≤ f i := by
  obtain ⟨hm, hle⟩ := minL_eq_some_iff.mp h
  exact ⟨List.mem_map.mp hm, fun i hi => hle _ (List.mem_map_of_mem hi)⟩

theorem gridMin_attained {f : ℝ → ℝ} {a b v : ℝ} (hab : a ≤ b) {n : ℕ} (hv : minL ((linspace a b n).map f) = some v) :
    ∃ r ∈ Set.Icc a b, f r = v := by
  obtain ⟨⟨r, hr, rfl⟩, _⟩ := minL_map_eq_some hv
  exact ⟨r, linspace_mem_Icc a b hab n r hr, rfl⟩

/-- the grid points on `[0, μ]` are `c μ` with the same weights `0 ≤ c ≤ 1` for every `μ` -/
theorem gridMin_antitone {f : ℝ → ℝ → ℝ} {n : ℕ} {mu mu' w w' : ℝ}
    (hf : ∀ c : ℝ, 0 ≤ c → c ≤ 1 → f mu' (c * mu') ≤ f mu (c * mu))
    (h : minL ((linspace 0 mu n).map (f mu)) = some w) (h' : minL ((linspace 0 mu' n).map (f mu')) = some w') :
    w' ≤ w := by
  rw [linspace_eq, List.map_map] at h h'
  -- `w` is attained at some index `k`, and `w'` is at most the value of its list there
  obtain ⟨⟨k, hk, rfl⟩, _⟩ := minL_map_eq_some h
  obtain ⟨h0, h1⟩ := linspace_weight_mem (List.mem_range.mp hk)
  refine ((minL_map_eq_some h').2 k hk).trans ?_
  simp only [zero_add, sub_zero]
  exact hf _ h0 h1

/-- the fold behind `np.argmin` -/
noncomputable def argStep (s : ℕ × ℝ × ℕ) (y : ℝ) : ℕ × ℝ × ℕ := if y < s.2.1 then (s.2.2, y, s.2.2 + 1) else (s.1, s.2.1, s.2.2 + 1)

theorem argminL_cons (x : ℝ) (xs : List ℝ) : argminL (x :: xs) = some (xs.foldl argStep (0, x, 1)).1 := rfl

/-- invariant of that fold: the state holds a position, in the part `pre` read so far, of the running minimum `bv` -/
theorem argFold_spec (pre xs : List ℝ) (bi : ℕ) (bv : ℝ) (hbi : pre[bi]? = some bv) :
    (pre ++ xs)[(xs.foldl argStep (bi, bv, pre.length)).1]? = minL (bv :: xs) := by
  induction xs generalizing pre bi bv with
  | nil => rw [List.append_nil]; exact hbi
  | cons y ys ih =>
    have hstep : minL (bv :: y :: ys) = minL ((if y < bv then y else bv) :: ys) := rfl
    have happ : pre ++ y :: ys = (pre ++ [y]) ++ ys := (List.append_assoc pre [y] ys).symm
    have hlen : pre.length + 1 = (pre ++ [y]).length := (List.length_append (as := pre) (bs := [y])).symm
    rw [hstep, List.foldl_cons, happ, argStep, hlen]
    split
    · exact ih (pre ++ [y]) pre.length y List.getElem?_concat_length
    · exact ih (pre ++ [y]) bi bv (by rw [List.getElem?_append_left (List.getElem?_eq_some_iff.mp hbi).1, hbi])

theorem argminL_spec {l : List ℝ} {i : ℕ} (h : argminL l = some i) : l[i]? = minL l := by
  cases l with
  | nil => simp [argminL] at h
  | cons x xs =>
    obtain rfl := Option.some.inj h
    exact argFold_spec [x] xs 0 x rfl

theorem argminOn_spec (f : ℝ → ℝ) (grid : List ℝ) (t : ℝ) (h : argminOn f grid = some t) :
    t ∈ grid ∧ minL (grid.map f) = some (f t) := by
  unfold argminOn at h
  cases hi : argminL (grid.map f) with
  | none => simp [hi] at h
  | some i =>
    simp only [hi] at h
    refine ⟨List.mem_of_getElem? h, ?_⟩
    rw [← argminL_spec hi, List.getElem?_map, h]
    rfl

theorem argminOn_isSome (f : ℝ → ℝ) (grid : List ℝ) (h : grid ≠ []) : ∃ t, argminOn f grid = some t := by
  obtain ⟨x, xs, rfl⟩ := List.exists_cons_of_ne_nil h
  have hi : argminL ((x :: xs).map f) = some _ := argminL_cons (f x) (xs.map f)
  obtain ⟨v, hv⟩ := minL_isSome (l := (x :: xs).map f) (List.cons_ne_nil _ _)
  have hlt := argminL_spec hi
  rw [hv, List.getElem?_map, Option.map_eq_some_iff] at hlt
  obtain ⟨t, ht, _⟩ := hlt
  exact ⟨t, by rw [argminOn]; exact ht⟩

theorem argminOn_shift (f g : ℝ → ℝ) (grid : List ℝ) (d : ℝ) (hfg : ∀ r, g (r + d) = f r) :
    argminOn g (grid.map (· + d)) = (argminOn f grid).map (· + d) := by
  unfold argminOn
  have : (grid.map (· + d)).map g = grid.map f := by
    rw [List.map_map]
    exact List.map_congr_left fun r _ => hfg r
  rw [this]
  cases argminL (grid.map f) with
  | none => rfl
  | some i => simp [List.getElem?_map]

theorem ookObj_zero (Q : ℝ → ℝ) (mu s0 s1 r : ℝ) : ookObj Q 0 mu s0 s1 r = 1 / 2 * ookSum Q mu s0 s1 r := by
  rw [ookObj, ookSum, sub_zero, half_real]

theorem ookObj_shift (Q : ℝ → ℝ) (mu0 mu1 s0 s1 d r : ℝ) :
    ookObj Q (mu0 + d) (mu1 + d) s0 s1 (r + d) = ookObj Q mu0 mu1 s0 s1 r := by
  simp only [ookObj, add_sub_add_right_eq_sub]

theorem ookTheory_some {Q : ℝ → ℝ} {mu s0 s1 v : ℝ} (h : ookTheory Q mu s0 s1 = some v) :
    ∃ w, minL ((linspace 0 mu Gen.BerFormulas.ookTheoryGrid).map (ookSum Q mu s0 s1)) = some w ∧ v = 1 / 2 * w := by
  simp only [ookTheory, half_real, lit_real, Nat.cast_zero, Option.map_eq_some_iff] at h
  obtain ⟨w, hw, rfl⟩ := h
  exact ⟨w, hw, rfl⟩

/-- `M - 1` is truncated: for `M = 0` the exponent is 0 where Python has `**(-1)` -/
theorem ppmObj_real (Q : ℝ → ℝ) (M : ℕ) (mu0 mu1 s0 s1 u : ℝ) :
    ppmObj Q M mu0 mu1 s0 s1 u = 1 - Q ((u - mu1) / s1) * (1 - Q ((u - mu0) / s0)) ^ (M - 1) := by
  simp only [ppmObj, powNat_real, lit_real, Nat.cast_one]

theorem ppmObj_shift (Q : ℝ → ℝ) (M : ℕ) (mu0 mu1 s0 s1 d r : ℝ) :
    ppmObj Q M (mu0 + d) (mu1 + d) s0 s1 (r + d) = ppmObj Q M mu0 mu1 s0 s1 r := by
  simp only [ppmObj, add_sub_add_right_eq_sub]

theorem softFrom_real (I : ℝ) : (softFrom I : ℝ) = 1 - I / Real.sqrt (2 * Real.pi) := by
  simp only [softFrom, lit_real, Nat.cast_ofNat, Transc.sqrt_real, Transc.pi_real]
  ring

theorem ppmEstimator_hard (Q : ℝ → ℝ) (M : ℕ) (mu0 mu1 s0 s1 I : ℝ) : ppmEstimator Q M .hard mu0 mu1 s0 s1 I =
    (ppmThreshold Q M mu0 mu1 s0 s1).map (Option.map fun u => ppmFactorEst M (ppmObj Q M mu0 mu1 s0 s1 u)) := by
  unfold ppmEstimator ppmThreshold
  split <;> rfl

theorem ppmEstimator_soft (Q : ℝ → ℝ) {M : ℕ} (mu0 mu1 s0 s1 I : ℝ) (h : isPow2 M = true) :
    ppmEstimator Q M .soft mu0 mu1 s0 s1 I = .ok (some (ppmFactorEst M (softFrom I))) := by
  simp [ppmEstimator, h]

theorem ppmTheory_hard_some {Q : ℝ → ℝ} {M : ℕ} {mu s0 s1 I v : ℝ} (h : ppmTheory Q M .hard mu s0 s1 I = .ok (some v)) :
    ∃ w, minL ((linspace 0 mu Gen.BerFormulas.ppmTheoryGrid).map
        fun r => 1 - Q ((r - mu) / s1) * (1 - Q (r / s0)) ^ (M - 1)) = some w ∧ v = ppmFactorTheory M w := by
  have h := ok_of_guard h
  simp only [Option.map_eq_some_iff, lit_real, Nat.cast_zero, Nat.cast_one, powNat_real] at h
  obtain ⟨w, hw, rfl⟩ := h
  exact ⟨w, hw, rfl⟩

theorem ppmTheory_soft (Q : ℝ → ℝ) {M : ℕ} (mu s0 s1 I : ℝ) (h : isPow2 M = true) :
    ppmTheory Q M .soft mu s0 s1 I = .ok (some (ppmFactorTheory M (softFrom I))) := by
  simp [ppmTheory, h]

end OptiVerif.Ber
