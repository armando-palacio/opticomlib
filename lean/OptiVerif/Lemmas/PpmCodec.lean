/-
Encoder / decoder lemmas for the PPM model (C12).  The big-endian value and the `dec2bin` loop are those of
Lemmas/Dec2bin.lean (`beVal_eq_valBE`, `dec2binLoop_eq`); the decoder is a homomorphism at symbol boundaries.
-/
import OptiVerif.Lemmas.PpmList
import OptiVerif.Lemmas.Dec2bin
import Mathlib.Data.List.Induction

namespace OptiVerif.Ppm
open OptiVerif.Dec2bin

/-- big-endian value of a bit row -/
def beVal (row : List Bool) : Nat := row.foldl (fun a b => 2 * a + b.toNat) 0

theorem beVal_eq_valBE (row : List Bool) : beVal row = valBE (row.map Bool.toNat) := by
  rw [beVal, valBE, List.foldl_map]

theorem beVal_cons (b : Bool) (t : List Bool) : beVal (b :: t) = b.toNat * 2 ^ t.length + beVal t := by
  rw [beVal_eq_valBE, List.map_cons, valBE_cons, List.length_map, ← beVal_eq_valBE]

/-- the view from the last bit -/
theorem beVal_append_single (r : List Bool) (b : Bool) : beVal (r ++ [b]) = 2 * beVal r + b.toNat := by
  rw [beVal_eq_valBE, List.map_append, List.map_singleton, valBE_append, ← beVal_eq_valBE]

theorem beVal_lt (row : List Bool) : beVal row < 2 ^ row.length := by
  induction row using List.reverseRecOn with
  | nil => simp [beVal]
  | append_singleton r b ih =>
    have := Bool.toNat_lt b
    rw [beVal_append_single, List.length_append, List.length_singleton, Nat.pow_succ]
    omega

theorem beVal_lt_of_mem_chunks {k : Nat} (b : List Bool) {row : List Bool} (h : row ∈ chunks k (b.length / k) b) :
    row.length = k ∧ beVal row < 2 ^ k := by
  have hl := chunks_row_length k _ b (Nat.div_mul_le_self _ _) row h
  exact ⟨hl, hl ▸ beVal_lt row⟩

theorem weights_succ (k : Nat) : weights (k + 1) = 2 ^ k :: weights k := by
  simp [weights, List.range_succ]

theorem rowValue_cons (b : Bool) (t : List Bool) :
    rowValue (t.length + 1) (b :: t) = b.toNat * 2 ^ t.length + rowValue t.length t := by
  simp [rowValue, weights_succ]

theorem rowValue_eq_beVal (k : Nat) (row : List Bool) (h : row.length = k) : rowValue k row = beVal row := by
  subst h
  induction row with
  | nil => rfl
  | cons b t ih => rw [List.length_cons, rowValue_cons, beVal_cons, ih]

theorem bitsBE_beVal (row : List Bool) : bitsBE row.length (beVal row) = row.map Bool.toNat := by
  induction row using List.reverseRecOn with
  | nil => rfl
  | append_singleton r b ih =>
    have := Bool.toNat_lt b
    rw [List.length_append, List.length_singleton, bitsBE, beVal_append_single, Nat.mul_add_div Nat.two_pos,
      Nat.mul_add_mod, Nat.div_eq_of_lt this, Nat.mod_eq_of_lt this, Nat.add_zero, ih, List.map_append,
      List.map_singleton]

theorem beVal_bitsBE (i num : Nat) : beVal ((bitsBE i num).map (· != 0)) = num % 2 ^ i := by
  rw [beVal_eq_valBE, List.map_map, ← valBE_bitsBE]
  exact congrArg valBE ((List.map_congr_left fun x hx => by
    rcases bitsBE_mem i num x hx with rfl | rfl <;> rfl).trans (List.map_id _))

/-- the translated loop body (`Gen.Ppm.d2bBit`, `d2bNext`) is `% 2`, `/ 2`: the loop is C19's `Dec2bin.binLoop` -/
theorem dec2binLoop_eq : ∀ (i : Nat) (b : List Nat) (num : Nat), dec2binLoop i b num = binLoop i b num
  | 0, _, _ => rfl
  | i+1, b, num => by rw [dec2binLoop, binLoop, dec2binLoop_eq i]; rfl

theorem dec2binLoop_spec (m num : Nat) (suf : List Nat) :
    dec2binLoop m (List.replicate m 0 ++ suf) num = bitsBE m num ++ suf := by
  rw [dec2binLoop_eq, binLoop_spec]

theorem dec2bin_ok (num digits : Nat) (h : num < 2 ^ digits) : dec2bin num digits = .ok (bitsBE digits num) := by
  rw [dec2bin, Gen.Ppm.d2bLimit, if_neg (by omega)]
  have := dec2binLoop_spec digits num []
  rw [List.append_nil, List.append_nil] at this
  rw [this]

theorem dec2bin_err (num digits : Nat) (h : 2 ^ digits ≤ num) : dec2bin num digits = .error .ValueError := by
  have : 0 < 2 ^ digits := Nat.pow_pos (by omega)
  rw [dec2bin, Gen.Ppm.d2bLimit, if_pos (by omega)]

theorem decodeBits_append (M k : Nat) (s₁ s₂ : List Bool) (h : s₁.length % M = 0) :
    decodeBits M k (s₁ ++ s₂) = (do let a ← decodeBits M k s₁; let b ← decodeBits M k s₂; pure (a ++ b)) := by
  obtain ⟨c, hc⟩ := Nat.dvd_of_mod_eq_zero h
  -- the positions of `s₂` are shifted by a multiple of `M`, which `% M` forgets
  have hs : (onIdxFrom (0 + s₁.length) s₂).mapM (fun p => dec2bin (p % M) k)
      = (onIdxFrom 0 s₂).mapM (fun p => dec2bin (p % M) k) := by
    rw [onIdxFrom_add, List.mapM_map, hc]
    exact congrArg (List.mapM · _) (funext fun p => by rw [Function.comp, Nat.add_mul_mod_self_left])
  unfold decodeBits onIdx
  rw [onIdxFrom_append, List.mapM_append, hs]
  cases (onIdxFrom 0 s₁).mapM (fun p => dec2bin (p % M) k) with
  | error e => rfl
  | ok a =>
    cases (onIdxFrom 0 s₂).mapM (fun p => dec2bin (p % M) k) with
    | error e => rfl
    | ok b => simp [bind, Except.bind, pure, Except.pure]

theorem decodeBits_oneHot (M k d : Nat) (hM : d < M) (hk : d < 2 ^ k) :
    decodeBits M k (oneHot M d) = .ok (bitsBE k d) := by
  simp [decodeBits, onIdx, onIdxFrom_oneHot 0 M d hM, Nat.mod_eq_of_lt hM, dec2bin_ok d k hk]

theorem decodeBits_rows (M k : Nat) (ds : List Nat) (hM : ∀ d ∈ ds, d < M) (hk : ∀ d ∈ ds, d < 2 ^ k) :
    decodeBits M k (ds.map (oneHot M)).flatten = .ok (ds.map (bitsBE k)).flatten := by
  induction ds with
  | nil => rfl
  | cons d t ih =>
    rw [List.forall_mem_cons] at hM hk
    rw [List.map_cons, List.flatten_cons, decodeBits_append M k _ _ (by rw [oneHot_length, Nat.mod_self]),
      decodeBits_oneHot M k d hM.1 hk.1, ih hM.2 hk.2]
    rfl

theorem log2_ne_zero {M : Nat} (hM : 2 ≤ M) : Nat.log2 M ≠ 0 := by
  have := (Nat.le_log2 (n := M) (k := 1) (by omega)).2 (by simpa using hM)
  omega

theorem encodeBits_eq (M k : Nat) (hk : k ≠ 0) (bits : List Bool) :
    encodeBits M k bits =
      .ok ((chunks k (bits.length / k) bits).map (fun r => oneHot M (beVal r))).flatten := by
  have hrows := chunks_row_length k _ bits (Nat.div_mul_le_self bits.length k)
  -- the truncation `input[:len//k*k]` does not change the rows
  have htake := chunks_flatten k _ hrows
  rw [flatten_chunks, chunks_length] at htake
  rw [encodeBits, if_neg hk]
  simp only [htake]
  congr 2
  exact List.map_congr_left fun r hr => by rw [rowValue_eq_beVal k r (hrows r hr)]

theorem decodeBits_encodeBits (M k : Nat) (hk : k ≠ 0) (hM : 2 ^ k ≤ M) (bits out : List Bool)
    (h : encodeBits M k bits = .ok out) :
    decodeBits M k out = .ok ((bits.take (bits.length / k * k)).map Bool.toNat) := by
  rw [encodeBits_eq M k hk] at h
  obtain rfl := Except.ok.inj h
  have hlt : ∀ d ∈ (chunks k (bits.length / k) bits).map beVal, d < 2 ^ k :=
    List.forall_mem_map.mpr fun r hr => (beVal_lt_of_mem_chunks bits hr).2
  rw [show (fun r => oneHot M (beVal r)) = oneHot M ∘ beVal from rfl, ← List.map_map,
    decodeBits_rows M k _ (fun d hd => Nat.lt_of_lt_of_le (hlt d hd) hM) hlt,
    ← flatten_chunks, List.map_flatten, List.map_map]
  congr 2
  exact List.map_congr_left fun r hr => by rw [Function.comp, ← (beVal_lt_of_mem_chunks bits hr).1, bitsBE_beVal]

theorem encodeBits_decodeBits_rows (M k : Nat) (hk : k ≠ 0) (ds : List Nat) (h : ∀ d ∈ ds, d < 2 ^ k) :
    encodeBits M k ((ds.map (bitsBE k)).flatten.map (· != 0)) = .ok (ds.map (oneHot M)).flatten := by
  have hw : (ds.map (bitsBE k)).flatten.map (· != 0) = (ds.map fun d => (bitsBE k d).map (· != 0)).flatten := by
    rw [List.map_flatten, List.map_map]; rfl
  have hrl : ∀ r ∈ ds.map (fun d => (bitsBE k d).map (· != 0)), r.length = k :=
    List.forall_mem_map.mpr fun _ _ => by rw [List.length_map, bitsBE_length]
  have hc := chunks_flatten k _ hrl
  rw [List.length_map] at hc
  rw [encodeBits_eq _ k hk, hw, length_flatten_of_rows k _ hrl, List.length_map,
    Nat.mul_div_cancel _ (Nat.pos_of_ne_zero hk), hc, List.map_map]
  congr 2
  exact List.map_congr_left fun d hd => by
    rw [Function.comp, beVal_bitsBE, Nat.mod_eq_of_lt (h d hd)]

end OptiVerif.Ppm
