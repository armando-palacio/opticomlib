import OptiVerif.Model.PdFull
import OptiVerif.Lemmas.Filter

namespace OptiVerif.PdFull
open OptiVerif.Pd OptiVerif.Filter

theorem lpfPre_eq (secs : List (Sec ℝ)) (edge : ℕ) (p : Pre ℝ) (hs : edge < p.sig.length) (hn : edge < p.noise.length) :
    lpfPre secs edge p = .ok ⟨filtCore secs edge p.sig, filtCore secs edge p.noise⟩ := by
  unfold lpfPre
  rw [lpf_rows secs edge ⟨[toCx p.sig], some [toCx p.noise]⟩ (by simpa [toCx] using hs)
    (by rintro _ ⟨⟩; simpa [toCx] using hn)]
  simp [toCx, Function.comp_def]

theorem filtCore_map_mul_right (secs : List (Sec ℝ)) (e : ℕ) (c : ℝ) (xs : List ℝ) :
    filtCore secs e (xs.map (· * c)) = (filtCore secs e xs).map (· * c) := by
  have h := filtCore_map_mul secs e c xs
  simpa [mul_comm] using h

theorem lpfPre_sig_scale (secs : List (Sec ℝ)) (edge : ℕ) (c : ℝ) {p p' q q' : Pre ℝ} (hp : p'.sig = p.sig.map (c * ·))
    (hq : lpfPre secs edge p = .ok q) (hq' : lpfPre secs edge p' = .ok q')
    (he : edge < p.sig.length) (hn : edge < p.noise.length) (hn' : edge < p'.noise.length) :
    q'.sig = q.sig.map (c * ·) := by
  rw [lpfPre_eq secs edge p he hn] at hq
  rw [lpfPre_eq secs edge p' (by rw [hp, List.length_map]; exact he) hn'] at hq'
  obtain rfl := Except.ok.inj hq
  obtain rfl := Except.ok.inj hq'
  simp only [hp, filtCore_map_mul]

end OptiVerif.PdFull
