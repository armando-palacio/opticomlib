/-
Which errors the `str2array` model can raise (C15): ValueError, or `Other` (= OverflowError of an integer literal
outside the C long range) — nothing else.
-/
import OptiVerif.Model.BinSeqStr
import OptiVerif.Lemmas.Guard

namespace OptiVerif.BinSeqStr

def ValueOrOverflow (e : Wire.Err) : Prop := e = .ValueError ∨ e = .Other

theorem boolChar_raises (c : Nat) : Raises ValueOrOverflow (boolChar c) :=
  .ite (.ok _) (.ite (.ok _) (.error (.inl rfl)))

theorem assemble_raises (rows : List (List Cell)) : Raises ValueOrOverflow (assemble rows) := by
  unfold assemble
  split
  · exact .ok _
  · exact .ok _
  · exact .error (.inr rfl)

theorem parseIntTok_raises (t : List Nat) : Raises ValueOrOverflow (parseIntTok t) :=
  .ite (.error (.inl rfl)) (.ite (.error (.inr rfl)) (.ite (.ok _) (.ite (.ok _) (.ok _))))

theorem parseFloatTok_raises (t : List Nat) : Raises ValueOrOverflow (parseFloatTok t) :=
  .ite (.error (.inl rfl)) (.ite (.ok _) (.ite (.ok _) (.ok _)))

/-- the common body of `parseBool` and `parseNum` -/
theorem rows_raises {α : Type} {f : α → Except Wire.Err Cell} (hf : ∀ x, Raises ValueOrOverflow (f x)) (rows : List (List α))
    (c : Prop) [Decidable c] :
    Raises ValueOrOverflow (if c then throw .ValueError else rows.mapM (fun r => r.mapM f) >>= assemble : Except Wire.Err Parsed) :=
  .ite (.error (.inl rfl)) (.bind (.mapM (fun r => .mapM hf r) rows) assemble_raises)

theorem parseBool_raises (s : List Nat) : Raises ValueOrOverflow (parseBool s) := rows_raises boolChar_raises _ _

theorem parseNum_raises {tok : List Nat → Except Wire.Err Cell} (ht : ∀ x, Raises ValueOrOverflow (tok x)) (s : List Nat) :
    Raises ValueOrOverflow (parseNum tok s) := rows_raises ht _ _

theorem str2array_err (s : List Nat) (e : Wire.Err) (h : str2array s = .err e) : ValueOrOverflow e := by
  have of_match : ∀ {x : Except Wire.Err Parsed},
      (match x with | .ok p => Result.ok p | .error e => .err e) = .err e → x = .error e := by
    intro x h; cases x <;> cases h; rfl
  unfold str2array at h
  split at h
  · exact (parseBool_raises s).elim (of_match h)
  · exact (parseNum_raises parseIntTok_raises s).elim (of_match h)
  · exact (parseNum_raises parseFloatTok_raises s).elim (of_match h)
  · cases h
  · cases h; exact .inl rfl

end OptiVerif.BinSeqStr
