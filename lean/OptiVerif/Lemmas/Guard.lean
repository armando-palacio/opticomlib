/-
Reading the models' guards.  Python's `if bad: raise E` is `if c then .error e else …` in every model; these lemmas
turn "the call returned / raised" into the condition and the value, whatever the error type; `Raises S x` says which
errors a call can raise at all, and is proved by a term of the shape of the call.  Core Lean only.
-/
namespace OptiVerif

universe u v w
variable {ε : Type u} {α β : Type v} {γ : Type w} {c : Prop} [Decidable c] {e : ε}

theorem ite_error_eq_ok {r : Except ε α} {out : α} :
    (if c then .error e else r) = .ok out ↔ ¬ c ∧ r = .ok out := by
  split <;> simp [*]

theorem ok_of_guard {a b : α} (h : (if c then Except.error e else Except.ok a) = Except.ok b) : a = b :=
  Except.ok.inj (ite_error_eq_ok.mp h).2

theorem ite_error_iff {v : α} : (if c then Except.error e else .ok v) = .error e ↔ c := by
  split <;> simp [*]

theorem ite_else_error_eq_ok {r : Except ε α} {out : α} :
    (if c then r else .error e) = .ok out ↔ c ∧ r = .ok out := by
  split <;> simp [*]

theorem ite_ok_inv {a b : α} (h : (if c then Except.ok a else Except.error e) = .ok b) : c ∧ a = b :=
  (ite_else_error_eq_ok.mp h).imp_right Except.ok.inj

theorem Except.bind_eq_ok {x : Except ε α} {f : α → Except ε β} {b : β} :
    (x >>= f) = .ok b ↔ ∃ a, x = .ok a ∧ f a = .ok b := by
  cases x <;> simp [bind, Except.bind]

theorem Except.map_eq_ok {f : α → β} {x : Except ε α} {b : β} : x.map f = .ok b ↔ ∃ a, x = .ok a ∧ f a = b := by
  cases x <;> simp [Except.map]

theorem Except.map_eq_error {x : Except ε α} {f : α → β} {e : ε} : x.map f = .error e ↔ x = .error e := by
  cases x <;> simp [Except.map]

theorem mapM_except_ok (f : γ → Except ε β) (g : γ → β) (l : List γ) (h : ∀ x ∈ l, f x = .ok (g x)) :
    l.mapM f = .ok (l.map g) := by
  induction l with
  | nil => rfl
  | cons a t ih =>
    rw [List.mapM_cons, h a List.mem_cons_self, ih fun x hx => h x (List.mem_cons_of_mem _ hx)]
    rfl

/-- the only errors `x` can raise are those in `S`.  Stated of the value, not of a hypothesis `x = .error e`, so that
    the proof for an `if`-ladder or a `do`-block is a term of the same shape (`.ite`, `.bind`, `.mapM`). -/
def Raises (S : ε → Prop) (x : Except ε α) : Prop := ∀ e, x = .error e → S e

namespace Raises
variable {S : ε → Prop}

theorem elim {x : Except ε α} {e : ε} (h : Raises S x) (he : x = .error e) : S e := h e he

theorem ok (a : α) : Raises S (.ok a : Except ε α) := fun _ h => nomatch h

theorem error {e : ε} (h : S e) : Raises S (.error e : Except ε α) := fun _ he => by cases he; exact h

theorem ite {c : Prop} [Decidable c] {x y : Except ε α} (hx : Raises S x) (hy : Raises S y) :
    Raises S (if c then x else y) := by split <;> assumption

theorem bind {x : Except ε α} {f : α → Except ε β} (hx : Raises S x) (hf : ∀ a, Raises S (f a)) :
    Raises S (x >>= f) := by
  cases x with
  | error e => exact error (hx.elim rfl)
  | ok a => exact hf a

theorem mapM {f : γ → Except ε β} (hf : ∀ a, Raises S (f a)) (l : List γ) : Raises S (l.mapM f) := by
  induction l with
  | nil => exact ok _
  | cons a t ih =>
    rw [List.mapM_cons]
    exact bind (hf a) fun _ => bind ih fun _ => ok _
end Raises

end OptiVerif
