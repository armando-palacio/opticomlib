/-
Lemmas about the eye-estimator model at ℝ (C17).  A change of units y ↦ αy + β is pushed through the selections by
`filter_zip_map`; everything about the time grid rests on its closed form `grid_eq` (point `j` is `−1 + j/s`).
-/
import OptiVerif.Model.Eye
import OptiVerif.Lemmas.NumList

namespace OptiVerif.Eye
open OptiVerif.NumList

def aff (α β x : ℝ) : ℝ := α * x + β
def affPair (α β : ℝ) (p : ℝ × ℝ) : ℝ × ℝ := (aff α β p.1, aff α β p.2)

theorem lt_aff {α : ℝ} (hα : 0 < α) (β a b : ℝ) : Cmp.lt (aff α β a) (aff α β b) = Cmp.lt a b := by
  rw [Bool.eq_iff_iff, Cmp.lt_real, Cmp.lt_real]
  exact ((strictMono_mul_left_of_pos hα).add_const β).lt_iff_lt

theorem levels_aff (α β : ℝ) (top bot : ℝ × ℝ) :
    levels (affPair α β top) (affPair α β bot) =
      { state0 := aff α β (levels top bot).state0, state1 := aff α β (levels top bot).state1,
        d01 := α * (levels top bot).d01, v25 := aff α β (levels top bot).v25, v75 := aff α β (levels top bot).v75,
        yCenter := aff α β (levels top bot).yCenter } := by
  simp only [levels, level, affPair, aff, quarter, one_real, two_real, Levels.mk.injEq]
  refine ⟨?_, ?_, ?_, ?_, ?_, ?_⟩ <;> ring

theorem filter_zip_map (f : ℝ → ℝ) (p p' : ℝ × ℝ → Bool) (hp : ∀ q, p' (q.1, f q.2) = p q) (t y : List ℝ) :
    (List.zip t (y.map f)).filter p' = ((List.zip t y).filter p).map (Prod.map id f) := by
  rw [List.zip_map_right, List.filter_map]
  exact congrArg _ (List.filter_congr fun q _ => hp q)

theorem topSamples_aff {α : ℝ} (hα : 0 < α) (β : ℝ) (top bot : ℝ × ℝ) (tm : Timing ℝ) (t y : List ℝ) :
    topSamples (levels (affPair α β top) (affPair α β bot)) tm t (y.map (aff α β))
      = (topSamples (levels top bot) tm t y).map (aff α β) := by
  simp only [topSamples, levels_aff]
  rw [filter_zip_map (aff α β) (fun p => Cmp.lt (levels top bot).yCenter p.2 && inWindow tm p.1) _
    (fun q => by simp only [lt_aff hα]), List.map_map, List.map_map]
  rfl

theorem botSamples_aff {α : ℝ} (hα : 0 < α) (β : ℝ) (top bot : ℝ × ℝ) (tm : Timing ℝ) (t y : List ℝ) :
    botSamples (levels (affPair α β top) (affPair α β bot)) tm t (y.map (aff α β))
      = (botSamples (levels top bot) tm t y).map (aff α β) := by
  simp only [botSamples, levels_aff]
  rw [filter_zip_map (aff α β) (fun p => Cmp.lt p.2 (levels top bot).yCenter && inWindow tm p.1) _
    (fun q => by simp only [lt_aff hα]), List.map_map, List.map_map]
  rfl

theorem mem_topSamples (lv : Levels ℝ) (tm : Timing ℝ) (t y : List ℝ) (v : ℝ) (h : v ∈ topSamples lv tm t y) :
    lv.yCenter < v := by
  simp only [topSamples, List.mem_map, List.mem_filter, Bool.and_eq_true, Cmp.lt_real] at h
  obtain ⟨p, ⟨_, hp, _⟩, rfl⟩ := h
  exact hp

theorem mem_botSamples (lv : Levels ℝ) (tm : Timing ℝ) (t y : List ℝ) (v : ℝ) (h : v ∈ botSamples lv tm t y) :
    v < lv.yCenter := by
  simp only [botSamples, List.mem_map, List.mem_filter, Bool.and_eq_true, Cmp.lt_real] at h
  obtain ⟨p, ⟨_, hp, _⟩, rfl⟩ := h
  exact hp

theorem threshold_aff (α β m0 m1 : ℝ) (p p' : List ℝ) (hne : p ≠ []) (hlen : p'.length = p.length)
    (harg : argmin p' = argmin p) :
    threshold (aff α β m0) (aff α β m1) p' = aff α β (threshold m0 m1 p) := by
  simp only [threshold, aff, linspace_affine, hlen, harg]
  rw [getD_argmin hne (by rw [List.length_map, length_linspace]), getD_argmin hne (length_linspace ..), List.getElem_map]

theorem threshold_between (m0 m1 : ℝ) (h : m0 ≤ m1) (p : List ℝ) (hne : p ≠ []) :
    m0 ≤ threshold m0 m1 p ∧ threshold m0 m1 p ≤ m1 := by
  rw [threshold, getD_argmin hne (length_linspace ..)]
  exact linspace_mem_between m0 m1 h _ _ (List.getElem_mem _)

theorem findNearest_mem (g : List ℝ) (hne : g ≠ []) (x : ℝ) : findNearest g x ∈ g := by
  rw [findNearest, getD_argmin (by simpa using hne) (List.length_map _).symm]
  exact List.getElem_mem _

theorem findNearest_nearest (g : List ℝ) (hne : g ≠ []) (x : ℝ) : ∀ l ∈ g, |findNearest g x - x| ≤ |l - x| := by
  have hne' : g.map (fun l => absR (l - x)) ≠ [] := by simpa using hne
  intro l hl
  have := (isFirstMin_argmin hne').le _ (List.mem_map_of_mem hl)
  rw [List.getElem_map, absR_real, absR_real] at this
  rwa [findNearest, getD_argmin hne' (List.length_map _).symm]

theorem grid_eq (s : ℕ) (hs : 1 ≤ s) : (grid s : List ℝ) = (List.range (2 * s)).map (fun j : ℕ => -1 + (j : ℝ) / s) := by
  have hs' : (1 : ℝ) ≤ (s : ℝ) := by exact_mod_cast hs
  have hm : ((2 * s - 1 : ℕ) : ℝ) = 2 * (s : ℝ) - 1 := by rw [Nat.cast_pred (by omega)]; push_cast; rfl
  have hstep : ((1 - 1 / (s : ℝ)) - (-1)) / ((2 * s - 1 : ℕ) : ℝ) = 1 / (s : ℝ) := by
    rw [hm, div_eq_iff (by linarith only [hs'])]; field_simp; ring
  rw [grid, linspace_eq_map, one_real, hstep]
  exact List.map_congr_left fun j _ => by ring

theorem length_grid (s : ℕ) : (grid s : List ℝ).length = 2 * s := by simp [grid, length_linspace]

theorem grid_ne_nil (s : ℕ) (hs : 1 ≤ s) : (grid s : List ℝ) ≠ [] :=
  List.ne_nil_of_length_pos (by rw [length_grid]; omega)

theorem grid_getD (s : ℕ) (hs : 1 ≤ s) (j : ℕ) (hj : j < 2 * s) : (grid s : List ℝ).getD j 0 = -1 + (j : ℝ) / s := by
  simp [grid_eq s hs, hj]

theorem grid_nodup (s : ℕ) (hs : 1 ≤ s) : (grid s : List ℝ).Nodup := by
  have hs' : (s : ℝ) ≠ 0 := by positivity
  rw [grid_eq s hs]
  refine List.Nodup.map (fun i j h => ?_) List.nodup_range
  exact Nat.cast_injective ((div_left_inj' hs').mp (add_right_injective _ h))

theorem argNearest_getElem (t : List ℝ) (k : ℕ) (hk : k < t.length) (hfirst : ∀ j (hj : j < k), t[j] ≠ t[k]) :
    argNearest t t[k] = k := by
  refine argmin_eq ⟨by rwa [List.length_map], List.forall_mem_map.mpr fun y _ => ?_, fun j hj => ?_⟩
  · simp only [List.getElem_map, absR_real, sub_self, abs_zero, abs_nonneg]
  · simp only [List.getElem_map, absR_real, sub_self, abs_zero, abs_pos, sub_ne_zero]
    exact hfirst j hj

theorem argNearest_grid (nslots s : ℕ) (hs : 1 ≤ s) (hn : 2 ≤ nslots) (k : ℕ) (hk : k < 2 * s) :
    argNearest (tAxis nslots s) ((grid s : List ℝ).getD k 0) = k := by
  obtain ⟨m, hm⟩ : ∃ m, nslots / 2 = m + 1 := ⟨nslots / 2 - 1, by omega⟩
  have hk' : k < (grid s : List ℝ).length := by rwa [length_grid]
  -- the axis starts with one copy of the grid, whose points are distinct
  have ht : (tAxis nslots s : List ℝ) = grid s ++ tile m (grid s) := by rw [tAxis, hm, tile]
  have hget : ∀ j (hj : j < (grid s : List ℝ).length),
      (grid s ++ tile m (grid s) : List ℝ)[j]'(by simp; omega) = (grid s)[j] :=
    fun j hj => List.getElem_append_left hj
  rw [ht, List.getD_eq_getElem _ _ hk', ← hget k hk']
  refine argNearest_getElem _ k _ fun j hj => ?_
  rw [hget k hk', hget j (hj.trans hk')]
  exact fun h => hj.ne ((grid_nodup s hs).getElem_inj_iff.mp h)

theorem exists_nat_near (N : ℕ) (u : ℝ) (h0 : 0 ≤ u) (h1 : u ≤ N - 1) : ∃ k < N, |(k : ℝ) - u| ≤ 1 / 2 := by
  have h : 0 ≤ u + 1 / 2 := add_nonneg h0 one_half_pos.le
  refine ⟨⌊u + 1 / 2⌋₊, (Nat.floor_lt h).mpr (by linarith only [h1]), abs_sub_le_iff.mpr ⟨?_, ?_⟩⟩
  · exact sub_le_iff_le_add'.mpr (Nat.floor_le h)
  · linarith only [Nat.lt_floor_add_one (u + 1 / 2)]

theorem findNearest_close (s : ℕ) (hs : 1 ≤ s) (x : ℝ) (h0 : -1 ≤ x) (h1 : x ≤ 1 - 1 / (s : ℝ)) :
    |findNearest (grid s) x - x| ≤ 1 / (2 * (s : ℝ)) := by
  have hs' : (0 : ℝ) < (s : ℝ) := by exact_mod_cast hs
  -- in units of the step, x is u = (x+1)·s ∈ [0, 2s−1] and the k-th grid point is k
  have hu1 : (x + 1) * s ≤ (2 * s : ℕ) - 1 := by
    have := mul_le_mul_of_nonneg_right h1 hs'.le
    rw [sub_mul, one_div, inv_mul_cancel₀ hs'.ne'] at this
    push_cast
    linarith only [this]
  obtain ⟨k, hk, hd⟩ := exists_nat_near (2 * s) ((x + 1) * s) (mul_nonneg (by linarith only [h0]) hs'.le) hu1
  have hmem : -1 + (k : ℝ) / s ∈ (grid s : List ℝ) := by
    rw [grid_eq s hs]
    exact List.mem_map.mpr ⟨k, List.mem_range.mpr hk, rfl⟩
  have e : -1 + (k : ℝ) / s - x = ((k : ℝ) - (x + 1) * s) / s := by
    rw [sub_div, mul_div_cancel_right₀ _ hs'.ne']; ring
  refine (findNearest_nearest _ (grid_ne_nil s hs) x _ hmem).trans ?_
  rw [e, abs_div, abs_of_pos hs', ← div_div]
  exact div_le_div_of_nonneg_right hd hs'.le

theorem abs_sub_midpoint_le {p a b lo hi δ : ℝ} (ha : |a - lo| ≤ δ) (hb : |b - hi| ≤ δ) (hm : |p - (lo + hi) / 2| ≤ δ) :
    |p - (a + b) / 2| ≤ 2 * δ := by
  have e : p - (a + b) / 2 = (p - (lo + hi) / 2) - ((a - lo) + (b - hi)) / 2 := by ring
  rw [e]
  calc _ ≤ |p - (lo + hi) / 2| + |((a - lo) + (b - hi)) / 2| := abs_sub _ _
    _ ≤ δ + (δ + δ) / 2 := by
      rw [abs_div, abs_two]
      exact add_le_add hm (div_le_div_of_nonneg_right ((abs_add_le _ _).trans (add_le_add ha hb)) zero_le_two)
    _ = 2 * δ := by ring

theorem timing_some (g : List ℝ) (c : (ℝ × ℝ) × (ℝ × ℝ)) :
    timing g (some c) = { tLeft := findNearest g (min c.1.1 c.2.1), tRight := findNearest g (max c.1.1 c.2.1),
                          tOpt := findNearest g ((c.1.1 + c.2.1) / 2) } := by
  simp only [timing, two_real, Cmp.lt_real, min_comm c.1.1, min_def_lt, max_def_lt]

theorem sampIndex_range_some (sps r k : ℕ) (h1 : r / 2 ≤ k + 1) (h2 : k + 1 < r + r / 2) :
    0 ≤ sampIndex sps (some r) k ∧ (0 < sps → sampIndex sps (some r) k < sps) := by
  -- the numerator is q·sps with the natural number q = k + 1 − r/2 < r, so `tdiv` is the natural quotient
  have e : (k : ℤ) - ((r / 2 : ℕ) : ℤ) + 1 = ((k + 1 - r / 2 : ℕ) : ℤ) := by omega
  have hq : k + 1 - r / 2 < r := by omega
  simp only [sampIndex]
  rw [e, ← Nat.cast_mul, Int.tdiv_eq_ediv_of_nonneg (Int.natCast_nonneg _), ← Int.natCast_ediv]
  exact ⟨Int.natCast_nonneg _, fun hsps => Int.ofNat_lt.mpr (Nat.div_lt_of_lt_mul (Nat.mul_lt_mul_of_pos_right hq hsps))⟩

theorem sampIndex_none (sps : ℕ) (hs : 1 ≤ sps) (k : ℕ) : sampIndex sps none k = sampIndex sps (some sps) k := by
  simp only [sampIndex]
  rw [Int.mul_tdiv_cancel _ (by omega)]

end OptiVerif.Eye
