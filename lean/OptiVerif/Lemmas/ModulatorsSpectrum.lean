/-
C06 × C02: the spectrum of the model's CW laser (no phase noise, no RIN) with an on-grid frequency offset.
The laser's samples are a tone `c·ζ^(m·j)`; the DFT of a tone is `n·c` in bin `m mod n` and zero elsewhere.
-/
import OptiVerif.Lemmas.Modulators
import OptiVerif.Lemmas.Fourier

namespace OptiVerif.Modulators

theorem toC_cis_two_pi_int (n : ℕ) (m : ℤ) : (Cx.cis (2 * Real.pi * m / n) : Cx ℝ).toC = Fourier.zeta n ^ m := by
  rw [Cx.toC_cis, Fourier.zeta, ← Complex.exp_int_mul]
  congr 1
  push_cast
  ring

/-- since `ζ^n = 1` -/
theorem zeta_zpow (n : ℕ) (hn : n ≠ 0) (m : ℤ) : Fourier.zeta n ^ m = Fourier.zeta n ^ (m % (n : ℤ)).toNat := by
  conv_lhs => rw [← Int.emod_add_mul_ediv m n]
  rw [zpow_add₀ ((Fourier.zeta_prim n hn).ne_zero hn), zpow_mul, zpow_natCast, (Fourier.zeta_prim n hn).pow_eq_one, one_zpow, mul_one,
    ← zpow_natCast, Int.toNat_of_nonneg (Int.emod_nonneg m (Int.natCast_ne_zero.2 hn))]

theorem dftAt_tone (c : Cx ℝ) (n : ℕ) (m : ℤ) (x : ℕ → Cx ℝ)
    (hx : ∀ j, j < n → x j = c * Cx.cis (2 * Real.pi * ((m * j : ℤ) : ℝ) / n)) (k : ℕ) (hk : k < n) :
    (Fourier.dftAt x n k).toC = if (k : ℤ) = m % (n : ℤ) then c.toC * n else 0 := by
  have hn : n ≠ 0 := by omega
  have hm0 : 0 ≤ m % (n : ℤ) := Int.emod_nonneg _ (Int.natCast_ne_zero.2 hn)
  have hmn : (m % (n : ℤ)).toNat < n := by
    have := Int.emod_lt_of_pos m (by exact_mod_cast Nat.pos_of_ne_zero hn : (0 : ℤ) < n)
    omega
  have hterm : ∀ j ∈ Finset.range n, (x j).toC * (Fourier.zeta n ^ (j * k))⁻¹
      = c.toC * (Fourier.zeta n ^ ((m % (n : ℤ)).toNat * j) * (Fourier.zeta n ^ (k * j))⁻¹) := by
    intro j hj
    rw [hx j (Finset.mem_range.mp hj), Cx.toC_mul, toC_cis_two_pi_int, zpow_mul, zpow_natCast, zeta_zpow n hn m,
      ← pow_mul, mul_comm j k, mul_assoc]
  rw [Fourier.toC_dftAt, Finset.sum_congr rfl hterm, ← Finset.mul_sum, Fourier.ortho_primitive (Fourier.zeta_prim n hn) hmn hk]
  have hiff : (m % (n : ℤ)).toNat = k ↔ (k : ℤ) = m % (n : ℤ) := by omega
  simp only [hiff, mul_ite, mul_zero]

/-- the uniform time grid `t_j = j/fs`, `j < n` (`np.arange(n)*gv.dt` with `gv.dt = 1/gv.fs`) -/
noncomputable def timeGrid (n : ℕ) (fs : ℝ) : List ℝ := (List.range n).map fun (j : ℕ) => (j : ℝ) / fs

theorem laser_cw_eq (p fs f : ℝ) (t : List ℝ) (hf : |f| ≤ fs / 2) :
    laser p none none (some f) fs t =
      .ok (t.map fun tk => (Cx.ofReal (Gen.OptDev.laserAmp p) : Cx ℝ) * Cx.cis (Gen.OptDev.laserOffsetArg f tk)) := by
  rw [laser_eq_of_stage1 rfl, laserStage3_some, if_neg (not_lt.2 hf), laserOffset, List.zipWith_map_left,
    List.zipWith_self]

theorem nth_laser_cw (p fs : ℝ) (hfs : fs ≠ 0) (n : ℕ) (k0 : ℤ) (j : ℕ) (hj : j < n) :
    Fourier.nth ((timeGrid n fs).map fun tk =>
        (Cx.ofReal (Gen.OptDev.laserAmp p) : Cx ℝ) * Cx.cis (Gen.OptDev.laserOffsetArg ((k0 : ℝ) * fs / n) tk)) j
      = Cx.ofReal (Gen.OptDev.laserAmp p) * Cx.cis (2 * Real.pi * ((k0 * j : ℤ) : ℝ) / n) := by
  have harg : (Gen.OptDev.laserOffsetArg ((k0 : ℝ) * fs / n) ((j : ℝ) / fs) : ℝ)
      = 2 * Real.pi * ((k0 * j : ℤ) : ℝ) / n := by
    push_cast
    calc 2 * Real.pi * (k0 * fs / n) * (j / fs) = 2 * Real.pi * (k0 * j) / n * (fs / fs) := by ring
      _ = 2 * Real.pi * (k0 * j) / n := by rw [div_self hfs, mul_one]
  rw [Fourier.nth_eq_getElem _ _ (by simp [timeGrid, hj])]
  simp only [timeGrid, List.getElem_map, List.getElem_range, harg]

end OptiVerif.Modulators
