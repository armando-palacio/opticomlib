/-
MZM, PM and LASER (`Model/Modulators.lean`) at ℝ: the translated formulas, and one lemma per model function saying what it
computes.  The devices act sample by sample (`modRow`, `blank`; the laser stage by stage), so their properties are lifted
from one sample by the relators of `Lemmas/OptField.lean`.
-/
import OptiVerif.Lemmas.OptField

namespace OptiVerif.Modulators
open OptiVerif.Gen.OptDev (idb mzmLoss mzmEta mzmG)

theorem mzmLoss_real (ld : ℝ) : mzmLoss ld = (10 : ℝ) ^ (-ld / 10) := by
  simp only [mzmLoss, idb_real]

theorem mzmLoss_pos (ld : ℝ) : 0 < (mzmLoss ld : ℝ) := idb_pos _

theorem mzmLoss_le_one {ld : ℝ} (h : 0 ≤ ld) : (mzmLoss ld : ℝ) ≤ 1 := idb_le_one (neg_nonpos.2 h)

theorem mzmK_eq_sqrt (er : ℝ) : (mzmK er : ℝ) = Real.sqrt (idb (-er)) := by
  simp only [mzmK, mzmEta, lit_real, Transc.sqrt_real]
  ring

theorem mzmK_real (er : ℝ) : mzmK er = (10 : ℝ) ^ (-er / 20) := by
  rw [mzmK_eq_sqrt, idb_real, Real.sqrt_eq_rpow, ← Real.rpow_mul (by norm_num : (0:ℝ) ≤ 10)]
  congr 1
  ring

theorem mzmK_pos (er : ℝ) : 0 < (mzmK er : ℝ) := by
  rw [mzmK_eq_sqrt]; exact Real.sqrt_pos.2 (idb_pos _)

theorem mzmK_le_one {er : ℝ} (h : 0 ≤ er) : (mzmK er : ℝ) ≤ 1 := by
  rw [mzmK_eq_sqrt]; exact Real.sqrt_le_one.2 (idb_le_one (neg_nonpos.2 h))

theorem mzmK_sq (er : ℝ) : (mzmK er : ℝ) * mzmK er = (10 : ℝ) ^ (-er / 10) := by
  rw [mzmK_eq_sqrt, sqrt_idb_mul_self]

theorem mzmG_real (Vpi bias u : ℝ) : (mzmG Vpi bias u : ℝ) = Real.pi * (u + bias) / (2 * Vpi) := by
  simp only [mzmG, lit_real, Transc.pi_real]; ring

theorem mzmH_normSq (loss k g : ℝ) (hl : 0 ≤ loss) :
    (mzmH loss k g).normSq = loss * (Real.cos g ^ 2 + k * k * Real.sin g ^ 2) := by
  simp only [mzmH, Cx.normSq]
  linear_combination (Real.cos g ^ 2 + k * k * Real.sin g ^ 2) * Real.mul_self_sqrt hl

theorem mzmH_passive (loss k g : ℝ) (hl : 0 ≤ loss) (hk0 : 0 ≤ k) (hk1 : k ≤ 1) :
    (mzmH loss k g).normSq ≤ loss := by
  rw [mzmH_normSq loss k g hl]
  have hk : k * k ≤ 1 := mul_le_one₀ hk1 hk0 hk1
  calc loss * (Real.cos g ^ 2 + k * k * Real.sin g ^ 2)
      ≤ loss * (Real.cos g ^ 2 + 1 * Real.sin g ^ 2) :=
        mul_le_mul_of_nonneg_left (add_le_add_right (mul_le_mul_of_nonneg_right hk (sq_nonneg _)) _) hl
    _ = loss := by rw [one_mul, Real.cos_sq_add_sin_sq, mul_one]

theorem mzmH_normSq_zero (loss k : ℝ) (hl : 0 ≤ loss) : (mzmH loss k 0).normSq = loss := by
  rw [mzmH_normSq _ _ _ hl]; simp

theorem mzmH_normSq_pi_div_two (loss k : ℝ) (hl : 0 ≤ loss) : (mzmH loss k (Real.pi / 2)).normSq = loss * (k * k) := by
  rw [mzmH_normSq _ _ _ hl]; simp

theorem mzmG_shift (Vpi bias u : ℝ) (hV : Vpi ≠ 0) :
    (mzmG Vpi bias (u + 2 * Vpi) : ℝ) = mzmG Vpi bias u + Real.pi := by
  rw [mzmG_real, mzmG_real]
  field_simp
  ring

theorem mzmH_add_pi (loss k g : ℝ) : mzmH loss k (g + Real.pi) = -mzmH loss k g := by
  apply Cx.ext <;>
    simp [mzmH]

/-- the translated `h_t` expression is the documented `sqrt(loss)·(cos g + j·(eta/2)·sin g)` -/
theorem mzmHu_def (ld er Vpi bias u : ℝ) :
    mzmHu ld er Vpi bias u = mzmH (mzmLoss ld) (mzmK er) (mzmG Vpi bias u) := rfl

theorem mzmHu_add_bias (ld er Vpi bias c u : ℝ) : mzmHu ld er Vpi (bias + c) u = mzmHu ld er Vpi bias (u + c) := by
  have h : (mzmG Vpi (bias + c) u : ℝ) = mzmG Vpi bias (u + c) := by rw [mzmG_real, mzmG_real, add_assoc, add_comm c]
  rw [mzmHu_def, mzmHu_def, h]


theorem RowsRel.map_modRow_self {P : Cx ℝ → Cx ℝ → Prop} {hs : List (Cx ℝ)} {r : Rows (Cx ℝ)} {n : ℕ}
    (hl : hs.length = n) (hr : r.Shaped n) (hmul : ∀ a, ∀ h ∈ hs, P (a * h) a) : RowsRel P (r.map (modRow hs)) r := by
  have m : ∀ a : List (Cx ℝ), a.length = n → List.Forall₂ P (modRow hs a) a := fun a ha =>
    List.forall₂_zipWith_of (R := Eq) (Q := fun h a => P (a * h) a) (by rintro a h _ rfl t; exact t)
      (List.forall₂_refl a) (List.forall₂_of_forall_pairs (hl.trans ha.symm) fun h hh a _ => hmul a h hh)
  cases r with
  | one a => exact m a hr
  | two a b => exact ⟨m a hr.1, m b hr.2⟩

theorem modRow_add (hs a b : List (Cx ℝ)) :
    modRow hs (List.zipWith (· + ·) a b) = List.zipWith (· + ·) (modRow hs a) (modRow hs b) :=
  List.zipWith_zipWith_distrib Cx.add_mul' a b hs

theorem mzmRows_one (pol : PolSel) (hs a : List (Cx ℝ)) : mzmRows pol hs (.one a) = .one (modRow hs a) := by
  cases pol <;> rfl

theorem mzmRows_two_x (hs a b : List (Cx ℝ)) :
    mzmRows .x hs (.two a b) = .two (modRow hs a) ((modRow hs b).map fun _ => czero) := rfl

theorem mzmRows_two_y (hs a b : List (Cx ℝ)) :
    mzmRows .y hs (.two a b) = .two ((modRow hs a).map fun _ => czero) (modRow hs b) := rfl

theorem rowsRel_mzmRows {P : Cx ℝ → Cx ℝ → Prop} (pol : PolSel) {hs : List (Cx ℝ)} {r : Rows (Cx ℝ)} {n : ℕ}
    (hl : hs.length = n) (hr : r.Shaped n) (hmul : ∀ a, ∀ h ∈ hs, P (a * h) a) (hz : ∀ a, P czero a) :
    RowsRel P (mzmRows pol hs r) r := by
  have z : ∀ {a b : List (Cx ℝ)}, List.Forall₂ P a b → List.Forall₂ P (a.map fun _ => czero) b :=
    fun h => List.forall₂_map_left_iff.2 (h.imp fun _ _ _ => hz _)
  have m := RowsRel.map_modRow_self hl hr hmul
  cases r with
  | one a => cases pol <;> exact m
  | two a b =>
    cases pol
    exacts [⟨m.1, z m.2⟩, ⟨z m.1, m.2⟩, m]

theorem rowsRel_mzmRows_congr {R Q P : Cx ℝ → Cx ℝ → Prop} (hP : ∀ a a' h h', R a a' → Q h h' → P (a * h) (a' * h'))
    (hz : P czero czero) (pol : PolSel) {hs hs' : List (Cx ℝ)} (hh : List.Forall₂ Q hs hs') {r r' : Rows (Cx ℝ)}
    (hr : RowsRel R r r') : RowsRel P (mzmRows pol hs r) (mzmRows pol hs' r') := by
  have m : ∀ {a a'}, List.Forall₂ R a a' → List.Forall₂ P (modRow hs a) (modRow hs' a') :=
    fun ha => List.forall₂_zipWith hP ha hh
  have z : ∀ {a a'}, List.Forall₂ R a a' →
      List.Forall₂ P ((modRow hs a).map fun _ => czero) ((modRow hs' a').map fun _ => czero) :=
    fun ha => List.forall₂_map_left_iff.2 (List.forall₂_map_right_iff.2 ((m ha).imp fun _ _ _ => hz))
  cases r <;> cases r' <;> simp only [RowsRel] at hr
  · cases pol <;> exact m hr
  · cases pol
    exacts [⟨m hr.1, z hr.2⟩, ⟨z hr.1, m hr.2⟩, ⟨m hr.1, m hr.2⟩]

theorem shaped_mzmRows (pol : PolSel) {hs : List (Cx ℝ)} {r : Rows (Cx ℝ)} {n : ℕ} (hl : hs.length = n)
    (hr : r.Shaped n) : (mzmRows pol hs r).Shaped n :=
  ((rowsRel_mzmRows (P := fun _ _ => True) pol hl hr (fun _ _ _ => trivial) fun _ => trivial).shaped_iff n).2 hr

theorem expand_length (n : ℕ) (us : List ℝ) (h : us.length = n ∨ us.length = 1) : (expand n us).length = n := by
  match us, h with
  | [], h => simpa [expand] using h
  | [u], _ => simp [expand]
  | u :: v :: w, h => simpa [expand] using h

theorem expand_singleton (n : ℕ) (u : ℝ) : expand n [u] = List.replicate n u := rfl

theorem expand_replicate (n : ℕ) (v : ℝ) : expand n (List.replicate n v) = List.replicate n v := by
  -- `replicate 1 v = [v]` is the broadcasting pattern of `expand`
  match n with
  | 0 => rfl
  | 1 => rfl
  | n + 2 => rfl

theorem expand_map (n : ℕ) (f : ℝ → ℝ) (us : List ℝ) : expand n (us.map f) = (expand n us).map f := by
  match us with
  | [] => rfl
  | [u] => simp [expand]
  | u :: v :: w => rfl

/-- the transfer samples `h_t` the MZM applies to an input of `n` samples -/
noncomputable def mzmHs (bias Vpi ld er : ℝ) (n : ℕ) (d : Drive ℝ) : List (Cx ℝ) :=
  (expand n d.samples).map (mzmHu ld er Vpi bias)

theorem mzmHs_length (bias Vpi ld er : ℝ) (n : ℕ) (d : Drive ℝ)
    (h : d.samples.length = n ∨ d.samples.length = 1) : (mzmHs bias Vpi ld er n d).length = n := by
  simp [mzmHs, expand_length n _ h]

theorem forall_mem_mzmHs {p : Cx ℝ → Prop} (bias Vpi ld er : ℝ) (n : ℕ) (d : Drive ℝ)
    (h : ∀ u, p (mzmHu ld er Vpi bias u)) : ∀ z ∈ mzmHs bias Vpi ld er n d, p z :=
  List.forall_mem_map.2 fun u _ => h u

theorem mzmHs_scalar (bias Vpi ld er : ℝ) (n : ℕ) (v : ℝ) :
    mzmHs bias Vpi ld er n (.scalar v) = mzmHs bias Vpi ld er n (.array (List.replicate n v)) := by
  simp only [mzmHs, Drive.samples, expand_singleton, expand_replicate]

theorem forall₂_mzmHs_map {Q : Cx ℝ → Cx ℝ → Prop} (bias Vpi ld er : ℝ) (n : ℕ) {d d' : Drive ℝ} (f : ℝ → ℝ)
    (hd : d'.samples = d.samples.map f) (hQ : ∀ u, Q (mzmHu ld er Vpi bias u) (mzmHu ld er Vpi bias (f u))) :
    List.Forall₂ Q (mzmHs bias Vpi ld er n d) (mzmHs bias Vpi ld er n d') := by
  simp only [mzmHs, hd, expand_map, List.map_map]
  rw [List.forall₂_map_left_iff, List.forall₂_map_right_iff]
  exact List.forall₂_same.mpr fun u _ => hQ u

theorem mzm_eq (pol : PolSel) (bias Vpi ld er : ℝ) (d : Drive ℝ) (x : Field (Cx ℝ)) :
    mzm pol bias Vpi ld er d x =
      if d.samples.length ≠ x.sig.len ∧ d.samples.length ≠ 1 then .error .ValueError else
      if pol = .other then .error .ValueError else
        .ok (x.map (mzmRows pol (mzmHs bias Vpi ld er x.sig.len d))) := rfl

theorem mzm_eq_ok {pol : PolSel} {bias Vpi ld er : ℝ} {d : Drive ℝ} {x : Field (Cx ℝ)}
    (hlen : d.samples.length = x.sig.len ∨ d.samples.length = 1) (hpol : pol ≠ .other) :
    mzm pol bias Vpi ld er d x = .ok (x.map (mzmRows pol (mzmHs bias Vpi ld er x.sig.len d))) := by
  rw [mzm_eq, if_neg fun h => hlen.elim h.1 h.2, if_neg hpol]

theorem mzm_ok_inv {pol : PolSel} {bias Vpi ld er : ℝ} {d : Drive ℝ} {x out : Field (Cx ℝ)}
    (h : mzm pol bias Vpi ld er d x = .ok out) :
    (d.samples.length = x.sig.len ∨ d.samples.length = 1) ∧ pol ≠ .other ∧
      out = x.map (mzmRows pol (mzmHs bias Vpi ld er x.sig.len d)) := by
  rw [mzm_eq] at h
  split_ifs at h with h1 h2
  cases h
  exact ⟨(not_and_or.1 h1).imp not_not.1 not_not.1, h2, rfl⟩

theorem mzm_shaped {pol : PolSel} {bias Vpi ld er : ℝ} {d : Drive ℝ} {x out : Field (Cx ℝ)} {n : ℕ} (hx : x.Shaped n)
    (h : mzm pol bias Vpi ld er d x = .ok out) : out.Shaped n := by
  obtain ⟨hlen, hpol, rfl⟩ := mzm_ok_inv h
  obtain rfl := Rows.len_of_shaped hx.1
  exact hx.map fun r => shaped_mzmRows pol (mzmHs_length bias Vpi ld er x.sig.len d hlen)

theorem pmPhase_real (Vpi u : ℝ) : (pmPhase Vpi u : ℝ) = Real.pi * u / Vpi :=
  congrArg (· / Vpi) (mul_comm u Real.pi)

theorem pmRowsNoise_eq (Vpi : ℝ) (us : List ℝ) : pmRowsNoise Vpi us = pmRows Vpi us := rfl

theorem pmRows_eq (Vpi : ℝ) (us : List ℝ) :
    pmRows Vpi us = Rows.map fun row => List.zipWith (fun a u => a * pmRot Vpi u) row us :=
  funext fun r => by cases r <;> simp [pmRows, Rows.map, modRow, List.zipWith_map_right]

theorem rowsRel_pmRows (Vpi : ℝ) {us : List ℝ} {r : Rows (Cx ℝ)} {n : ℕ} (hl : us.length = n) (hr : r.Shaped n) :
    RowsRel (fun o i => o.normSq = i.normSq) (pmRows Vpi us r) r :=
  RowsRel.map_modRow_self (by rw [List.length_map, hl]) hr fun a =>
    List.forall_mem_map.2 fun u _ => Cx.normSq_mul_cis a _

theorem pmRows_add (Vpi : ℝ) (us : List ℝ) (s nz : Rows (Cx ℝ)) :
    pmRows Vpi us (s.add nz) = (pmRows Vpi us s).add (pmRows Vpi us nz) := by
  cases s <;> cases nz <;> simp [pmRows, Rows.map, Rows.add, modRow_add]

theorem pmRot_mul (Vpi a b : ℝ) : (pmRot Vpi a : Cx ℝ) * pmRot Vpi b = pmRot Vpi (a + b) := by
  simp only [pmRot, Cx.cis_add, pmPhase_real, mul_add, add_div]

theorem pmRows_pmRows (Vpi : ℝ) (as bs : List ℝ) (r : Rows (Cx ℝ)) :
    pmRows Vpi bs (pmRows Vpi as r) = pmRows Vpi (List.zipWith (· + ·) as bs) r := by
  cases r <;> simp only [pmRows, Rows.map, modRow, List.zipWith_map_right, List.zipWith_zipWith_left,
    List.zipWith_zipWith_right, Cx.mul_assoc', pmRot_mul]

theorem len_pmRows (Vpi : ℝ) {us : List ℝ} {r : Rows (Cx ℝ)} (hl : us.length = r.len) : (pmRows Vpi us r).len = r.len := by
  cases r <;> simp_all [pmRows, Rows.map, Rows.len, modRow]

theorem pmDrive_scalar (n : ℕ) (v : ℝ) : pmDrive n (.scalar v) = .ok (List.replicate n v) := rfl

theorem pmDrive_array_ok {n : ℕ} {vs : List ℝ} (h : vs.length = n) : pmDrive n (.array vs) = .ok vs :=
  if_neg (not_not.2 h)

theorem pmDrive_array_error {n : ℕ} {vs : List ℝ} (h : vs.length ≠ n) : pmDrive n (.array vs) = .error .ValueError :=
  if_pos h

theorem pmDrive_esig (n : ℕ) (vs : List ℝ) (nz : Option (List ℝ)) : pmDrive n (.esig vs nz) = pmDrive n (.array vs) := rfl

theorem pmDrive_length {n : ℕ} {d : Drive ℝ} {us : List ℝ} (h : pmDrive n d = .ok us) : us.length = n := by
  cases d <;> simp only [pmDrive, ite_error_eq_ok, Except.ok.injEq, not_not, reduceCtorEq] at h
  · rw [← h, List.length_replicate]
  · exact h.2 ▸ h.1
  · exact h.2 ▸ h.1

theorem pm_ok_inv {Vpi : ℝ} {d : Drive ℝ} {x out : Field (Cx ℝ)} (h : pm Vpi d x = .ok out) :
    ∃ us, pmDrive x.sig.len d = .ok us ∧ us.length = x.sig.len ∧ out = x.map (pmRows Vpi us) := by
  unfold pm at h
  split at h
  · cases h
  · rename_i us hus
    exact ⟨us, hus, pmDrive_length hus, by cases h; rfl⟩

theorem pm_eq_error {Vpi : ℝ} {d : Drive ℝ} {x : Field (Cx ℝ)} {e : Wire.Err} (h : pmDrive x.sig.len d = .error e) :
    pm Vpi d x = .error e := by
  simp only [pm, h]

theorem pm_eq_ok {Vpi : ℝ} {d : Drive ℝ} {x : Field (Cx ℝ)} {us : List ℝ} (h : pmDrive x.sig.len d = .ok us) :
    pm Vpi d x = .ok (x.map (pmRows Vpi us)) := by
  simp [pm, h, pmRowsNoise_eq]

theorem length_cumsumFrom (acc : ℝ) (l : List ℝ) : (cumsumFrom acc l).length = l.length := by
  induction l generalizing acc with
  | nil => rfl
  | cons b l ih => simp [cumsumFrom, ih]

theorem length_cumsum (l : List ℝ) : (cumsum l).length = l.length := by
  cases l with
  | nil => rfl
  | cons a l => simp [cumsum, length_cumsumFrom]

theorem laserAmp_sq (p : ℝ) : (Gen.OptDev.laserAmp p : ℝ) * Gen.OptDev.laserAmp p = (10 : ℝ) ^ (p / 10 - 3) := by
  rw [Gen.OptDev.laserAmp, Transc.sqrt_real, Real.mul_self_sqrt (idbm_pos p).le, idbm_real]

theorem laserStage1_eq_ok {n : ℕ} (e0 : List (Cx ℝ)) {phase : Option (List ℝ)} (h : ∀ d, phase = some d → d.length = n) :
    ∃ e1, laserStage1 n e0 phase = .ok e1 := by
  cases phase with
  | none => exact ⟨_, rfl⟩
  | some d => exact ⟨laserPhase e0 d, by simp only [laserStage1, h d rfl, ne_eq, not_true_eq_false, if_false]⟩

theorem laserStage2_none (n : ℕ) (e1 : List (Cx ℝ)) : laserStage2 n e1 none = .ok e1 := rfl

theorem laserRinFloor_real : (Gen.OptDev.laserRinFloor : ℝ) = -1 := by
  simp only [Gen.OptDev.laserRinFloor, lit_real, Nat.cast_one]

theorem laserStage2_some (n : ℕ) (e1 : List (Cx ℝ)) (r : List ℝ) :
    laserStage2 n e1 (some r) =
      if r.length ≠ n then .error .Other else if ∃ v ∈ r, v < -1 then .error .ValueError else .ok (laserRin e1 r) := by
  simp only [laserStage2, List.any_eq_true, decide_eq_true_eq, laserRinFloor_real]

theorem laserStage3_some (fs f : ℝ) (t : List ℝ) (e : List (Cx ℝ)) :
    laserStage3 fs t e (some f) = if fs / 2 < |f| then .error .ValueError else .ok (laserOffset e f t) := by
  simp only [laserStage3, Gen.OptDev.laserNyquist, lit_real, lt_abs]
  -- the two sides differ in the `Decidable` instance of the condition only
  congr

theorem laser_ok_inv {p fs : ℝ} {phase rin : Option (List ℝ)} {df : Option ℝ} {t : List ℝ} {E : List (Cx ℝ)}
    (h : laser p phase rin df fs t = .ok E) :
    ∃ e1 e2, laserStage1 t.length (t.map fun _ => (Cx.ofReal (Gen.OptDev.laserAmp p) : Cx ℝ)) phase = .ok e1 ∧
      laserStage2 t.length e1 rin = .ok e2 ∧ laserStage3 fs t e2 df = .ok E := by
  unfold laser at h
  simp only at h
  split at h
  · cases h
  · rename_i e1 he1
    split at h
    · cases h
    · rename_i e2 he2
      exact ⟨e1, e2, he1, he2, h⟩

theorem laser_eq_of_stage1 {p fs : ℝ} {phase : Option (List ℝ)} {df : Option ℝ} {t : List ℝ} {e1 : List (Cx ℝ)}
    (h : laserStage1 t.length (t.map fun _ => (Cx.ofReal (Gen.OptDev.laserAmp p) : Cx ℝ)) phase = .ok e1) :
    laser p phase none df fs t = laserStage3 fs t e1 df := by
  simp only [laser, h, laserStage2]

/- The powers are stated against any list `rs` parallel to `t`: `t` itself, or the recorded RIN draw. -/

theorem forall₂_laser_e0 (p : ℝ) {t rs : List ℝ} (h : rs.length = t.length) :
    List.Forall₂ (fun (z : Cx ℝ) _ => z.normSq = (10 : ℝ) ^ (p / 10 - 3))
      (t.map fun _ => (Cx.ofReal (Gen.OptDev.laserAmp p) : Cx ℝ)) rs :=
  List.forall₂_map_left_iff.2
    (List.forall₂_of_forall_pairs h.symm fun _ _ _ _ => by rw [Cx.normSq_ofReal, laserAmp_sq])

theorem forall₂_normSq_mul_cis {g : ℝ → ℝ} (θ : ℝ → ℝ) {e : List (Cx ℝ)} {ys rs : List ℝ}
    (hl : ys.length = rs.length) (h : List.Forall₂ (fun z r => z.normSq = g r) e rs) :
    List.Forall₂ (fun z r => z.normSq = g r) (List.zipWith (fun z y => z * Cx.cis (θ y)) e ys) rs :=
  List.forall₂_zipWith_of (Q := fun _ _ => True) (fun z y r hz _ => by rw [Cx.normSq_mul_cis]; exact hz) h
    (List.forall₂_of_forall_pairs hl fun _ _ _ _ => trivial)

theorem laserStage1_ok {g : ℝ → ℝ} {rs : List ℝ} {n : ℕ} {e0 e1 : List (Cx ℝ)} {phase : Option (List ℝ)}
    (hn : rs.length = n) (h : laserStage1 n e0 phase = .ok e1) (h0 : List.Forall₂ (fun z r => z.normSq = g r) e0 rs) :
    List.Forall₂ (fun z r => z.normSq = g r) e1 rs := by
  cases phase with
  | none => cases h; exact h0
  | some d =>
    simp only [laserStage1] at h
    split_ifs at h with hd
    cases h
    exact forall₂_normSq_mul_cis _ (by rw [length_cumsum, not_not.mp hd, hn]) h0

theorem normSq_mul_rinFactor (z : Cx ℝ) {v : ℝ} (hv : -1 ≤ v) :
    (z * Cx.ofReal (Gen.OptDev.laserRinFactor v)).normSq = z.normSq * (1 + v) := by
  rw [Cx.normSq_mul, Cx.normSq_ofReal]
  simp only [Gen.OptDev.laserRinFactor, Transc.sqrt_real, lit_real, Nat.cast_one]
  rw [Real.mul_self_sqrt (by linarith)]

theorem laserStage2_ok {n : ℕ} {e1 e2 : List (Cx ℝ)} {r : List ℝ} {c : ℝ}
    (h : laserStage2 n e1 (some r) = .ok e2) (h1 : r.length = n → List.Forall₂ (fun z _ => z.normSq = c) e1 r) :
    r.length = n ∧ (∀ v ∈ r, -1 ≤ v) ∧ List.Forall₂ (fun z v => z.normSq = c * (1 + v)) e2 r := by
  rw [laserStage2_some] at h
  split_ifs at h with hr hv
  cases h
  have hv : ∀ v ∈ r, -1 ≤ v := fun v hm => not_lt.mp fun hlt => hv ⟨v, hm, hlt⟩
  refine ⟨not_not.mp hr, hv, ?_⟩
  refine List.forall₂_zipWith_of (Q := fun v w => v = w ∧ -1 ≤ w) ?_ (h1 (not_not.mp hr))
    (List.forall₂_same.2 fun v hm => ⟨rfl, hv v hm⟩)
  rintro z v _ hz ⟨rfl, hv⟩
  rw [normSq_mul_rinFactor z hv, hz]

theorem laserStage3_ok {g : ℝ → ℝ} {rs : List ℝ} {fs : ℝ} {t : List ℝ} {e2 e3 : List (Cx ℝ)} {df : Option ℝ}
    (hn : rs.length = t.length) (h : laserStage3 fs t e2 df = .ok e3)
    (h2 : List.Forall₂ (fun z r => z.normSq = g r) e2 rs) : List.Forall₂ (fun z r => z.normSq = g r) e3 rs := by
  cases df with
  | none => cases h; exact h2
  | some f =>
    rw [laserStage3_some] at h
    split_ifs at h
    cases h
    exact forall₂_normSq_mul_cis _ hn.symm h2

end OptiVerif.Modulators
