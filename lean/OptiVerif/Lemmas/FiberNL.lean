/-
Nonlinear FIBER (C08): a split step scales a row's energy by exp(-alpha' h) whatever its phases; the adaptive loop is read
through three rules on (field, step) pairs — invariant, termination, simulation — and `fiber` branch by branch.
-/
import OptiVerif.Lemmas.CmpReal
import OptiVerif.Lemmas.Guard
import OptiVerif.Lemmas.Fiber

namespace OptiVerif.FiberNL
open OptiVerif.Fourier OptiVerif.Fiber

theorem normSq_nlMul (gamma h : ℝ) (x a : Cx ℝ) : (nlMul gamma h x a).normSq = a.normSq :=
  Cx.normSq_mul_cis a _

theorem nlMul_gamma0 (h : ℝ) (x a : Cx ℝ) : nlMul 0 h x a = a := by
  rw [nlMul, zero_mul, zero_mul, Cx.cis_zero, Cx.mul_one']

theorem sumSq_zipWith_nlMul (gamma h : ℝ) (xs zs : List (Cx ℝ)) (hlen : xs.length = zs.length) :
    sumSq (List.zipWith (fun x zk => nlMul gamma h x zk) xs zs) = sumSq zs :=
  (sumSq_pointwise (c := 1) (by simp [hlen]) fun k _ => by
    rw [List.getElem_zipWith, normSq_nlMul, one_mul]).trans (one_mul _)

theorem length_fiberH_wAxis (wConv : ℝ) (n : ℕ) (fs a b2 b3 L : ℝ) :
    (fiberH wConv (wAxis n fs) a b2 b3 L).length = n :=
  length_resp _ fs n

theorem length_stepRow (wConv fs alphaP b2 b3 gamma : ℝ) (xs : List (Cx ℝ)) (h : ℝ) :
    (stepRow wConv fs alphaP b2 b3 gamma xs h).length = xs.length := by
  rw [stepRow, List.length_zipWith, length_applyH _ _ (by rw [length_fiberH_wAxis, List.length_map]),
    List.length_map, min_self]

theorem stepRow_nil (wConv fs alphaP b2 b3 gamma h : ℝ) : stepRow wConv fs alphaP b2 b3 gamma [] h = [] :=
  List.eq_nil_of_length_eq_zero (length_stepRow ..)

theorem sumSq_stepRow (wConv fs alphaP b2 b3 gamma : ℝ) (xs : List (Cx ℝ)) (h : ℝ) :
    sumSq (stepRow wConv fs alphaP b2 b3 gamma xs h) = Real.exp (-alphaP * h) * sumSq xs := by
  have hl : (fiberH wConv (wAxis xs.length fs) alphaP b2 b3 h).length
      = (xs.map fun x => nlMul gamma h x x).length := by rw [length_fiberH_wAxis, List.length_map]
  -- the first nonlinear factor is a `zipWith` of `xs` with itself
  rw [stepRow, sumSq_zipWith_nlMul _ _ _ _ (by rw [length_applyH _ _ hl, List.length_map]),
    sumSq_applyH _ _ _ hl (fiberH_normSq _ _ _ _ _ _), ← List.zipWith_self, sumSq_zipWith_nlMul _ _ _ _ rfl]

theorem stepRow_gamma0 (wConv fs alphaP b2 b3 : ℝ) (xs : List (Cx ℝ)) (h : ℝ) :
    stepRow wConv fs alphaP b2 b3 0 xs h = applyH (fiberH wConv (wAxis xs.length fs) alphaP b2 b3 h) xs := by
  simp only [stepRow, nlMul_gamma0]
  apply List.ext_getElem <;> simp [length_applyH _ _ (length_fiberH_wAxis ..)]

theorem map_sumSq_step (wConv fs alphaP b2 b3 gamma : ℝ) (A : Rows ℝ) (h : ℝ) :
    (step wConv fs alphaP b2 b3 gamma A h).map sumSq = (A.map sumSq).map (fun e => Real.exp (-alphaP * h) * e) := by
  simp [step, sumSq_stepRow]

theorem shape_fold (wConv fs alphaP b2 b3 gamma : ℝ) (hs : List ℝ) (A : Rows ℝ) :
    (hs.foldl (step wConv fs alphaP b2 b3 gamma) A).map List.length = A.map List.length := by
  induction hs generalizing A with
  | nil => rfl
  | cons h hs ih =>
    rw [List.foldl_cons, ih]
    simp [step, length_stepRow]

/-- the states met while applying a list of steps: (field before the step, step) -/
def trace (stepF : Rows ℝ → ℝ → Rows ℝ) : Rows ℝ → List ℝ → List (Rows ℝ × ℝ)
  | _, [] => []
  | A, h :: hs => (A, h) :: trace stepF (stepF A h) hs

theorem trace_append (stepF : Rows ℝ → ℝ → Rows ℝ) (A : Rows ℝ) (hs ks : List ℝ) :
    trace stepF A (hs ++ ks) = trace stepF A hs ++ trace stepF (hs.foldl stepF A) ks := by
  induction hs generalizing A with
  | nil => rfl
  | cons h hs ih => simp [trace, ih]

/-! One iteration of `loop` sends (field, step to apply) `(A, h)` to `(stepF A h, nextHF (stepF A h))`; `P` below is a
property of such pairs. -/

section loop
variable {stepF : Rows ℝ → ℝ → Rows ℝ} {nextHF : Rows ℝ → ℝ} {L : ℝ} {fuel : ℕ} {A : Rows ℝ} {h x : ℝ} {acc : List ℝ}

theorem loop_exit (hex : L < x + nextHF (stepF A h)) :
    loop stepF nextHF L (fuel + 1) A h x acc = .ok (stepF A h, h :: acc, x) := by
  simp [loop, hex]

theorem loop_cont (hc : ¬ L < x + nextHF (stepF A h)) :
    loop stepF nextHF L (fuel + 1) A h x acc
      = loop stepF nextHF L fuel (stepF A h) (nextHF (stepF A h)) (x + nextHF (stepF A h)) (h :: acc) := by
  simp [loop, hc]

theorem loop_ok (P : Rows ℝ → ℝ → Prop) (hiter : ∀ A h, P A h → P (stepF A h) (nextHF (stepF A h)))
    {A' : Rows ℝ} {acc' : List ℝ} {x' : ℝ} (h0 : P A h) (hx : x ≤ L)
    (hok : loop stepF nextHF L fuel A h x acc = .ok (A', acc', x')) :
    ∃ new, acc' = new.reverse ++ acc ∧ A' = new.foldl stepF A ∧ x' + h = x + new.sum ∧ x' ≤ L ∧
      L < x' + nextHF A' ∧ P A' (nextHF A') ∧ ∀ q ∈ trace stepF A new, P q.1 q.2 := by
  induction fuel generalizing A h x acc with
  | zero => simp [loop] at hok
  | succ fuel ih =>
    by_cases hex : L < x + nextHF (stepF A h)
    · rw [loop_exit hex, Except.ok.injEq] at hok
      obtain ⟨rfl, rfl, rfl⟩ := hok
      refine ⟨[h], rfl, rfl, by rw [List.sum_singleton], hx, hex, hiter A h h0, fun q hq => ?_⟩
      obtain rfl := List.mem_singleton.mp hq
      exact h0
    · rw [loop_cont hex] at hok
      obtain ⟨new, hacc, hA', hsum, hxL, hstop, hleft, hmet⟩ := ih (hiter A h h0) (not_lt.mp hex) hok
      refine ⟨h :: new, ?_, hA', ?_, hxL, hstop, hleft, List.forall_mem_cons.mpr ⟨h0, hmet⟩⟩
      · rw [hacc, List.reverse_cons, List.append_assoc]; rfl
      · rw [List.sum_cons]; linear_combination hsum

/-- every iteration that does not return advances `x` by at least `hmin` -/
theorem loop_terminates_of (P : Rows ℝ → ℝ → Prop) {hmin : ℝ} (hmin0 : 0 < hmin)
    (hiter : ∀ A h, P A h → P (stepF A h) (nextHF (stepF A h)) ∧ hmin ≤ nextHF (stepF A h))
    (h0 : P A h) (hx0 : 0 ≤ x) (hx : x ≤ L) (hfuel : L / hmin + 1 < fuel) :
    ∃ r, loop stepF nextHF L fuel A h x acc = .ok r := by
  replace hfuel : L - x + hmin < fuel * hmin := by
    rw [div_add_one hmin0.ne', div_lt_iff₀ hmin0] at hfuel
    exact (add_le_add (sub_le_self L hx0) le_rfl).trans_lt hfuel
  clear hx0
  induction fuel generalizing A h x acc with
  | zero => simp only [Nat.cast_zero] at hfuel; linarith
  | succ fuel ih =>
    by_cases hex : L < x + nextHF (stepF A h)
    · exact ⟨_, loop_exit hex⟩
    · rw [loop_cont hex]
      refine ih (hiter A h h0).1 (not_lt.mp hex) ?_
      rw [Nat.cast_succ] at hfuel
      linarith [(hiter A h h0).2]

theorem loop_map_on {stepG : Rows ℝ → ℝ → Rows ℝ} {nextHG : Rows ℝ → ℝ} (S : Rows ℝ → Prop) (f : Rows ℝ → Rows ℝ)
    (hS : ∀ A h, S A → S (stepF A h)) (hs : ∀ A h, S A → stepG (f A) h = f (stepF A h))
    (hn : ∀ A, S A → nextHG (f A) = nextHF A) (hA : S A) :
    loop stepG nextHG L fuel (f A) h x acc
      = (loop stepF nextHF L fuel A h x acc).map (fun r => (f r.1, r.2)) := by
  induction fuel generalizing A h x acc with
  | zero => rfl
  | succ fuel ih =>
    simp only [loop, hs A h hA, hn _ (hS A h hA)]
    split
    · rfl
    · exact ih (hS A h hA)

end loop

theorem nextH_of_ne {gamma : ℝ} (hg : gamma ≠ 0) (phiMax L : ℝ) (A : Rows ℝ) :
    nextH gamma phiMax L A = phiMax / (gamma * peak A) := by
  simp [nextH, hg]

theorem firstH_eq (b2 b3 gamma phiMax L : ℝ) (A : Rows ℝ) :
    firstH b2 b3 gamma phiMax L A
      = min L (if (b2 = 0 ∧ b3 = 0) ∨ gamma = 0 then L else phiMax / (gamma * peak A)) := by
  simp only [firstH, Cmp.lt_real, ← min_def_lt, Bool.or_eq_true, Bool.and_eq_true, Cmp.eqz_real]

theorem firstH_le (b2 b3 gamma phiMax L : ℝ) (A : Rows ℝ) : firstH b2 b3 gamma phiMax L A ≤ L := by
  rw [firstH_eq]; exact min_le_left _ _

theorem firstH_eq_min_nextH {b2 b3 gamma : ℝ} (hd : ¬ (b2 = 0 ∧ b3 = 0)) (hg : gamma ≠ 0) (phiMax L : ℝ) (A : Rows ℝ) :
    firstH b2 b3 gamma phiMax L A = min L (nextH gamma phiMax L A) := by
  rw [firstH_eq, nextH_of_ne hg, if_neg (by tauto)]

theorem firstH_le_nextH {b2 b3 gamma : ℝ} (hd : ¬ (b2 = 0 ∧ b3 = 0)) (hg : gamma ≠ 0) (phiMax L : ℝ) (A : Rows ℝ) :
    firstH b2 b3 gamma phiMax L A ≤ nextH gamma phiMax L A := by
  rw [firstH_eq_min_nextH hd hg]; exact min_le_right _ _

theorem length_spmRow (alphaP gamma L : ℝ) (x : List (Cx ℝ)) : (spmRow alphaP gamma L x).length = x.length :=
  List.length_map _

theorem fiber_of_spm (wConv kappa fs alpha : ℝ) {b2 b3 gamma : ℝ} (hd : b2 = 0 ∧ b3 = 0 ∧ gamma ≠ 0)
    (phiMax L : ℝ) (fuel : ℕ) (A : Rows ℝ) :
    fiber wConv kappa fs alpha b2 b3 gamma phiMax L fuel A = .ok ⟨A.map (spmRow (alpha / kappa) gamma L), []⟩ := by
  simp [fiber, hd.1, hd.2.1, hd.2.2]

theorem fiber_of_loop (wConv kappa fs alpha : ℝ) {b2 b3 gamma : ℝ} (hd : ¬ (b2 = 0 ∧ b3 = 0 ∧ gamma ≠ 0))
    (phiMax L : ℝ) (fuel : ℕ) (A : Rows ℝ) :
    fiber wConv kappa fs alpha b2 b3 gamma phiMax L fuel A
      = (loop (step wConv fs (alpha / kappa) b2 b3 gamma) (nextH gamma phiMax L) L fuel A
          (firstH b2 b3 gamma phiMax L A) (firstH b2 b3 gamma phiMax L A) []).map (fun (A', acc, x) =>
            let rest := if L - x = 0 then [] else [L - x]
            ⟨rest.foldl (step wConv fs (alpha / kappa) b2 b3 gamma) A', acc.reverse ++ rest⟩) := by
  have hc : (Cmp.eqz b2 && Cmp.eqz b3 && !Cmp.eqz gamma) = false := by
    simpa [Bool.eq_false_iff, and_assoc] using hd
  simp only [fiber, hc, Bool.false_eq_true]
  cases loop (step wConv fs (alpha / kappa) b2 b3 gamma) (nextH gamma phiMax L) L fuel A
      (firstH b2 b3 gamma phiMax L A) (firstH b2 b3 gamma phiMax L A) [] with
  | error e => rfl
  | ok r =>
    obtain ⟨A', acc, x⟩ := r
    by_cases hz : L - x = 0 <;> simp [Except.map, hz]

/-- `hlast`: the final partial step is shorter than the step the rule proposed when the loop stopped -/
theorem fiber_ok (P : Rows ℝ → ℝ → Prop) {wConv kappa fs alpha b2 b3 gamma phiMax L : ℝ} {fuel : ℕ} {A : Rows ℝ}
    {out : Out ℝ} (hd : ¬ (b2 = 0 ∧ b3 = 0 ∧ gamma ≠ 0))
    (hfirst : P A (firstH b2 b3 gamma phiMax L A))
    (hiter : ∀ B h, P B h → P (step wConv fs (alpha / kappa) b2 b3 gamma B h)
      (nextH gamma phiMax L (step wConv fs (alpha / kappa) b2 b3 gamma B h)))
    (hlast : ∀ B h h', P B h → 0 ≤ h' → h' ≤ h → P B h')
    (hok : fiber wConv kappa fs alpha b2 b3 gamma phiMax L fuel A = .ok out) :
    out.rows = out.steps.foldl (step wConv fs (alpha / kappa) b2 b3 gamma) A ∧ out.steps.sum = L ∧
      ∀ q ∈ trace (step wConv fs (alpha / kappa) b2 b3 gamma) A out.steps, P q.1 q.2 := by
  rw [fiber_of_loop _ _ _ _ hd] at hok
  obtain ⟨⟨A', acc', x'⟩, hr, rfl⟩ := Except.map_eq_ok.mp hok
  obtain ⟨new, rfl, rfl, hsum, hxL, hstop, hleft, hmet⟩ := loop_ok P hiter hfirst (firstH_le ..) hr
  simp only [List.append_nil, List.reverse_reverse, List.foldl_append, List.sum_append, trace_append,
    List.forall_mem_append, true_and]
  split_ifs with hz
  · exact ⟨by rw [List.sum_nil]; linear_combination -hsum - hz, hmet, fun q hq => nomatch hq⟩
  · refine ⟨by rw [List.sum_singleton]; linear_combination -hsum, hmet, fun q hq => ?_⟩
    obtain rfl := List.mem_singleton.mp hq
    exact hlast _ _ _ hleft (sub_nonneg.mpr hxL) (sub_lt_iff_lt_add'.mpr hstop).le

end OptiVerif.FiberNL
