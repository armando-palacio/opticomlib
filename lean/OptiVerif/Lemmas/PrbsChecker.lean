import OptiVerif.Model.PrbsCert

namespace OptiVerif.PrbsCert

/-- columns `g 2^i, g 2^(i+1), …` of a linear `g` commuting with the step, from `c = g 2^i`, `c0 = g 1` -/
def colsGen (n t c0 : Nat) : Nat → Nat → Nat → Mat
  | _, _, 0 => []
  | i, c, r+1 => c :: colsGen n t c0 (i+1) (step n t c ^^^ (if i = t - 1 then c0 else 0)) r

/-- matrices of `step^[e], step^[2e], step^[4e], …` from the matrix `m` of `step^[e]` -/
def squares (n t : Nat) (m : Mat) : Nat → List Mat
  | 0 => []
  | j+1 => m :: squares n t (let c0 := applyM m (applyM m 1); colsGen n t c0 0 c0 n) j

/-- apply the matrices at the set bits of `k` -/
def iterBits : List Mat → Nat → Nat → Nat
  | [], _, v => v
  | m :: ms, k, v => iterBits ms (k / 2) (if k % 2 = 1 then applyM m v else v)

/-- `qs`: the primes of `2^n - 1`; first conjunct: none is missing (sound for any exponent, `n` passes every list) -/
def cycleOK (n t : Nat) (qs : List Nat) : Bool :=
  let sq := squares n t (stepM n t) n
  qs.prod ^ n % (2^n - 1) == 0 && iterBits sq (2^n - 1) 1 == 1 &&
    qs.all fun q => iterBits sq ((2^n - 1) / q) 1 != 1

def powMod (a p : Nat) : Nat → Nat → Nat
  | 0, _ => 1 % p
  | f+1, e => let h := powMod a p f (e / 2); h * h % p * a ^ (e % 2) % p

/-- Lucas' test with witness `a`; `qs`: the primes of `p - 1` -/
def lucasOK (p a : Nat) (qs : List Nat) : Bool :=
  decide (2 ≤ p) && qs.all isPrimeB && qs.prod ^ p.log2 % (p - 1) == 0 &&
    powMod a p (p.log2 + 1) (p - 1) == 1 && qs.all fun q => powMod a p (p.log2 + 1) ((p - 1) / q) != 1

end OptiVerif.PrbsCert
