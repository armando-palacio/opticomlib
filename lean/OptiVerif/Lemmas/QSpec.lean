import Mathlib.Data.Real.Basic
import Mathlib.Order.Monotone.Defs

namespace OptiVerif.Ber

/-- what C13's theorems assume about `Q` -/
structure QSpec (Q : ℝ → ℝ) : Prop where
  anti : Antitone Q
  symm : ∀ x, Q x + Q (-x) = 1
  nonneg : ∀ x, 0 ≤ Q x
  le_one : ∀ x, Q x ≤ 1

theorem QSpec.zero {Q : ℝ → ℝ} (h : QSpec Q) : Q 0 = 1 / 2 := by
  have := h.symm 0
  rw [neg_zero, ← mul_two] at this
  exact eq_div_of_mul_eq two_ne_zero this

end OptiVerif.Ber
