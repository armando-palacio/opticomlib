import Mathlib.MeasureTheory.Function.SpecialFunctions.Basic
import OptiVerif.Lemmas.Ber

namespace OptiVerif.Ber

theorem softIntegrand_real (Q : ℝ → ℝ) (M : ℕ) (d s0 s1 x : ℝ) :
    softIntegrand Q M d s0 s1 x = (1 - Q ((d + s1 * x) / s0)) ^ (M - 1) * Real.exp (-(1 / 2) * x ^ 2) := by
  simp only [softIntegrand, powNat_real, lit_real, Nat.cast_one]
  congr 2
  ring

theorem softIntegrand_bounds {Q : ℝ → ℝ} (hQ : QSpec Q) (M : ℕ) (d s0 s1 x : ℝ) :
    0 ≤ softIntegrand Q M d s0 s1 x ∧ softIntegrand Q M d s0 s1 x ≤ Real.exp (-(1 / 2) * x ^ 2) := by
  rw [softIntegrand_real]
  obtain ⟨hp0, hp1⟩ := hQ.pow_compl_mem ((d + s1 * x) / s0) (M - 1)
  exact ⟨mul_nonneg hp0 (Real.exp_pos _).le, mul_le_of_le_one_left (Real.exp_pos _).le hp1⟩

theorem softIntegrand_measurable {Q : ℝ → ℝ} (hQ : QSpec Q) (M : ℕ) (d s0 s1 : ℝ) :
    Measurable (softIntegrand Q M d s0 s1) := by
  have hQm : Measurable Q := hQ.anti.measurable
  rw [show softIntegrand Q M d s0 s1 = _ from funext (softIntegrand_real Q M d s0 s1)]
  fun_prop

end OptiVerif.Ber
