/-
`sliceIdx`, `sliceLen`, `pick` and `normIdx` of the container model; the slice arithmetic itself is `Lemmas/PySlice.lean`,
whose copies `sliceNorm` / `rangeLen` are the model's by `rfl`.  No signal objects here.
-/
import OptiVerif.Model.Container
import OptiVerif.Lemmas.PySlice

namespace OptiVerif.Container
open OptiVerif.Wire (Err)

variable {α : Type}

theorem sliceNorm_eq_py : @sliceNorm = @PySlice.sliceNorm := rfl

theorem rangeLen_eq_py : @rangeLen = @PySlice.rangeLen := rfl

theorem sliceIdx_spec {st sp step : Option Int} {n : Nat} {idx : List Nat}
    (h : sliceIdx st sp step n = .ok idx) :
    ∃ s e k, sliceNorm st sp step n = .ok (s, e, k) ∧ idx.length = rangeLen s e k ∧
      (∀ j (hj : j < idx.length), (idx[j] : Int) = s + j * k) ∧ ∀ i ∈ idx, i < n := by
  unfold sliceIdx at h
  cases hn : sliceNorm st sp step n with
  | error err => simp [hn] at h
  | ok q =>
    obtain ⟨s, e, k⟩ := q
    simp only [hn] at h
    injection h with h
    subst h
    refine ⟨s, e, k, rfl, by simp, ?_, ?_⟩
    · intro j hj
      have hj' : j < rangeLen s e k := by simpa using hj
      have := PySlice.rangeLen_term_mem hn j hj'
      simp only [List.getElem_map, List.getElem_range]
      omega
    · intro i hi
      simp only [List.mem_map, List.mem_range] at hi
      obtain ⟨j, hj, rfl⟩ := hi
      have := PySlice.rangeLen_term_mem hn j hj
      omega

theorem sliceIdx_lt {st sp step : Option Int} {n : Nat} {idx : List Nat} (h : sliceIdx st sp step n = .ok idx) :
    ∀ i ∈ idx, i < n := by
  obtain ⟨_, _, _, _, _, _, hin⟩ := sliceIdx_spec h
  exact hin

theorem sliceIdx_full (n : Nat) : sliceIdx none (some (n : Int)) none n = .ok (List.range n) := by
  have h5 : rangeLen 0 (n : Int) 1 = n := by
    unfold rangeLen
    rw [if_neg (by decide)]
    split
    · simp
    · omega
  have hn : sliceNorm none (some (n : Int)) none n = .ok (0, n, 1) := by
    have h3 : ¬ ((n : Int) < 0) := by omega
    simp [sliceNorm, h3]
  simp only [sliceIdx, hn, h5]
  congr 1
  apply List.ext_getElem
  · simp
  · intro j hj1 hj2; simp

theorem sliceIdx_error {st sp step : Option Int} {n : Nat} {e : Err} (h : sliceIdx st sp step n = .error e) :
    e = .ValueError := by
  unfold sliceIdx at h
  cases hn : sliceNorm st sp step n with
  | ok q => simp [hn] at h
  | error e' =>
    simp only [hn] at h
    injection h with h; subst h
    exact (PySlice.sliceNorm_error.1 hn).1

/-- number of samples a slice selects on an axis of length `n` (0 for a zero step) -/
def sliceLen (st sp step : Option Int) (n : Nat) : Nat :=
  match sliceNorm st sp step n with
  | .error _ => 0
  | .ok (s, e, k) => rangeLen s e k

theorem sliceIdx_length {st sp step : Option Int} {n : Nat} {idx : List Nat}
    (h : sliceIdx st sp step n = .ok idx) : idx.length = sliceLen st sp step n := by
  obtain ⟨s, e, k, hn, hl, _⟩ := sliceIdx_spec h
  simp [sliceLen, hn, hl]

theorem pick_eq_pmap {idx : List Nat} {xs : List α} (h : ∀ i ∈ idx, i < xs.length) :
    pick idx xs = idx.pmap (fun i hi => xs[i]) h := by
  induction idx with
  | nil => rfl
  | cons i is ih => simp [← ih, pick, List.getElem?_eq_getElem (h i (by simp))]

theorem pick_length {idx : List Nat} {xs : List α} (h : ∀ i ∈ idx, i < xs.length) :
    (pick idx xs).length = idx.length := by
  rw [pick_eq_pmap h, List.length_pmap]

theorem pick_getElem {idx : List Nat} {xs : List α} (h : ∀ i ∈ idx, i < xs.length) (j : Nat)
    (hj : j < idx.length) :
    (pick idx xs)[j]'(by rw [pick_length h]; exact hj) = xs[idx[j]]'(h _ (List.getElem_mem hj)) := by
  simp [pick_eq_pmap h]

theorem pick_range {xs : List α} {n : Nat} (h : xs.length = n) : pick (List.range n) xs = xs := by
  subst h
  rw [pick_eq_pmap (by simp)]
  exact List.ext_getElem (by simp) (by simp)

theorem pick_single {k : Nat} {xs : List α} (h : k < xs.length) : pick [k] xs = [xs[k]] :=
  pick_eq_pmap (idx := [k]) (by simpa using h)

theorem normIdx_spec {i : Int} {n k : Nat} (h : normIdx i n = some k) :
    k < n ∧ ((0 ≤ i ∧ (k : Int) = i) ∨ (i < 0 ∧ (k : Int) = i + n)) := by
  unfold normIdx at h
  split at h
  · split at h
    · injection h with h; subst h; omega
    · cases h
  · split at h
    · injection h with h; subst h; omega
    · cases h

theorem normIdx_isSome_iff (i : Int) (n : Nat) : (normIdx i n).isSome ↔ (-(n : Int) ≤ i ∧ i < n) := by
  unfold normIdx
  split
  · split <;> simp <;> omega
  · split <;> simp <;> omega

end OptiVerif.Container
