/-
Lemmas tying the generated/translated PRBS model (`Model/Prbs.lean`, `Gen/Prbs.lean`) to the
documented step (`PrbsCert.step`) and unrolling the loop (C04).
-/
import OptiVerif.Model.Prbs
import OptiVerif.Model.PrbsCert
import Mathlib.Tactic.NormNum

namespace OptiVerif.Prbs

theorem step_eq (n t : Nat) : step n n t = PrbsCert.step n t := by
  funext s
  simp [step, stepTaps, Gen.Prbs.next, Gen.Prbs.newBit, Gen.Prbs.tapOffset, PrbsCert.step, Nat.one_shiftLeft]

theorem mem_taps_of_lookup (n a b : Nat) (h : lookup n = some (a, b)) : (n, a, b) ∈ Gen.Prbs.taps := by
  obtain ⟨⟨m, a, b⟩, hr, ⟨⟩⟩ := Option.map_eq_some_iff.mp h
  obtain rfl : m = n := by simpa using List.find?_some hr
  exact List.mem_of_find?_eq_some hr

theorem step_of_lookup (n a b : Nat) (h : lookup n = some (a, b)) :
    1 ≤ n ∧ step n a b = PrbsCert.step n b := by
  obtain ⟨ha, hn⟩ : a = n ∧ 1 ≤ n :=
    (by decide : ∀ r ∈ Gen.Prbs.taps, r.2.1 = r.1 ∧ 1 ≤ r.1) _ (mem_taps_of_lookup n a b h)
  exact ⟨hn, ha ▸ step_eq n b⟩

/-- Python's `seed % 2**n` is an `n`-bit natural number -/
theorem emod_two_pow (v : Int) (n : Nat) : ((v % 2^n).toNat : Int) = v % 2^n ∧ (v % 2^n).toNat < 2^n := by
  have hc : ((2^n : ℕ) : ℤ) = 2^n := by norm_cast
  omega

theorem run_snd (o a b : Nat) (L s : Nat) : (run o a b L s).2 = (step o a b)^[L] s := by
  induction L generalizing s with
  | zero => rfl
  | succ k ih => exact ih _

theorem run_fst (o a b : Nat) (L s : Nat) :
    (run o a b L s).1 = (List.range L).map (fun i => Gen.Prbs.outBit ((step o a b)^[i] s)) := by
  induction L generalizing s with
  | zero => rfl
  | succ k ih =>
    simp only [run, List.range_succ_eq_map]
    rw [ih]
    simp

theorem run_length (o a b L s : Nat) : (run o a b L s).1.length = L := by
  rw [run_fst]; simp

theorem run_add (o a b : Nat) (k1 k2 s : Nat) :
    run o a b (k1 + k2) s =
      ((run o a b k1 s).1 ++ (run o a b k2 (run o a b k1 s).2).1, (run o a b k2 (run o a b k1 s).2).2) := by
  induction k1 generalizing s with
  | zero => simp [run]
  | succ k ih =>
    have : k + 1 + k2 = (k + k2) + 1 := by omega
    rw [this]
    simp only [run]
    rw [ih]
    simp

end OptiVerif.Prbs
