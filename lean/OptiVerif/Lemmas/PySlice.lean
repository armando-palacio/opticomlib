import OptiVerif.Model.Wire

namespace OptiVerif.PySlice
open OptiVerif.Wire (Err)

/-- CPython's `slice(start, stop, step).indices(n)` (`PySlice_Unpack` + `PySlice_AdjustIndices`) and the length of
    `range(start, stop, step)`, as `Model/Container.lean` (`sliceNorm`, `rangeLen`: these by `rfl`) and
    `Model/BinSeq.lean` both transcribe them.  Copies, so that the one theory of the arithmetic imports no model, hence
    no translated table of C01 in the build of C15. -/
def sliceNorm (start stop step : Option Int) (n : Nat) : Except Err (Int × Int × Int) :=
  let st := step.getD 1
  if st = 0 then .error .ValueError else
  let lower : Int := if st < 0 then -1 else 0
  let upper : Int := if st < 0 then (n : Int) - 1 else n
  let clip (v : Int) : Int :=
    if v < 0 then (if v + n < lower then lower else v + n) else (if upper < v then upper else v)
  let s := match start with
    | none => if st < 0 then upper else lower
    | some v => clip v
  let e := match stop with
    | none => if st < 0 then lower else upper
    | some v => clip v
  .ok (s, e, st)

def rangeLen (s e st : Int) : Nat :=
  if st < 0 then (if e < s then ((s - e - 1) / (-st) + 1).toNat else 0)
  else (if s < e then ((e - s - 1) / st + 1).toNat else 0)

/-- `PySlice_AdjustIndices` on one bound: the default `d` if the bound is missing; otherwise negative values count
    from the end and the result is clamped to `[lo, hi]` -/
def clip (lo hi : Int) (n : Nat) (d : Int) : Option Int → Int
  | none => d
  | some v => if v < 0 then (if v + n < lo then lo else v + n) else (if hi < v then hi else v)

theorem clip_mem {lo hi d : Int} {n : Nat} (h : lo ≤ 0 ∧ (n : Int) - 1 ≤ hi ∧ lo ≤ d ∧ d ≤ hi) (o : Option Int) :
    lo ≤ clip lo hi n d o ∧ clip lo hi n d o ≤ hi := by
  cases o with
  | none => exact h.2.2
  | some v => simp only [clip]; split <;> split <;> omega

theorem sliceNorm_eq (st sp step : Option Int) (n : Nat) :
    sliceNorm st sp step n =
      let k := step.getD 1
      let lo : Int := if k < 0 then -1 else 0
      let hi : Int := if k < 0 then (n : Int) - 1 else n
      if k = 0 then .error .ValueError
      else .ok (clip lo hi n (if k < 0 then hi else lo) st, clip lo hi n (if k < 0 then lo else hi) sp, k) := by
  cases st <;> cases sp <;> rfl

theorem sliceNorm_error {st sp step : Option Int} {n : Nat} {e : Err} :
    sliceNorm st sp step n = .error e ↔ e = .ValueError ∧ step = some 0 := by
  rw [sliceNorm_eq]
  cases step with
  | none => simp
  | some k => by_cases hk : k = 0 <;> simp [hk, eq_comm]

theorem sliceNorm_spec {st sp step : Option Int} {n : Nat} {s e k : Int}
    (h : sliceNorm st sp step n = .ok (s, e, k)) :
    k = step.getD 1 ∧ k ≠ 0 ∧ (0 < k → 0 ≤ s ∧ s ≤ n ∧ 0 ≤ e ∧ e ≤ n) ∧
      (k < 0 → -1 ≤ s ∧ s ≤ n - 1 ∧ -1 ≤ e ∧ e ≤ n - 1) := by
  rw [sliceNorm_eq] at h
  simp only at h
  split at h
  · cases h
  · rename_i hk
    injection h with h
    injection h with hs h
    injection h with he h
    subst h hs he
    refine ⟨rfl, hk, fun hpos => ?_, fun hneg => ?_⟩
    · simp only [if_neg (by omega : ¬ step.getD 1 < 0)]
      have hs := clip_mem (n := n) (lo := 0) (hi := n) (d := 0) (by omega) st
      have he := clip_mem (n := n) (lo := 0) (hi := n) (d := n) (by omega) sp
      omega
    · simp only [if_pos hneg]
      have hs := clip_mem (n := n) (lo := -1) (hi := n - 1) (d := n - 1) (by omega) st
      have he := clip_mem (n := n) (lo := -1) (hi := n - 1) (d := -1) (by omega) sp
      omega

theorem rangeLen_pos {s e k : Int} (hk : 0 < k) (j : Nat) : j < rangeLen s e k ↔ s + j * k < e := by
  unfold rangeLen
  rw [if_neg (by omega)]
  have hjk : 0 ≤ (j : Int) * k := Int.mul_nonneg (by omega) (by omega)
  split
  · have hq : 0 ≤ (e - s - 1) / k := Int.ediv_nonneg (by omega) (by omega)
    have := Int.le_ediv_iff_mul_le (a := (j : Int)) (b := e - s - 1) hk
    omega
  · omega

/-- a negative step is the positive one on the reflected axis -/
theorem rangeLen_neg_eq {s e k : Int} (hk : k < 0) : rangeLen s e k = rangeLen (-s) (-e) (-k) := by
  unfold rangeLen
  rw [if_pos hk, if_neg (by omega : ¬ -k < 0), show -e - -s - 1 = s - e - 1 by omega]
  by_cases h : e < s
  · rw [if_pos h, if_pos (by omega)]
  · rw [if_neg h, if_neg (by omega)]

theorem rangeLen_neg {s e k : Int} (hk : k < 0) (j : Nat) : j < rangeLen s e k ↔ e < s + j * k := by
  rw [rangeLen_neg_eq hk, rangeLen_pos (by omega), Int.mul_neg]
  omega

theorem rangeLen_term_mem {st sp step : Option Int} {n : Nat} {s e k : Int}
    (h : sliceNorm st sp step n = .ok (s, e, k)) (j : Nat) (hj : j < rangeLen s e k) :
    0 ≤ s + j * k ∧ s + j * k < n := by
  obtain ⟨_, hk0, hpos, hneg⟩ := sliceNorm_spec h
  rcases Int.lt_or_gt_of_ne hk0 with hk | hk
  · obtain ⟨a, b, c, d⟩ := hneg hk
    have := (rangeLen_neg hk j).1 hj
    have hjk : (j : Int) * k ≤ 0 := Int.mul_nonpos_of_nonneg_of_nonpos (by omega) (by omega)
    omega
  · obtain ⟨a, b, c, d⟩ := hpos hk
    have := (rangeLen_pos hk j).1 hj
    have hjk : 0 ≤ (j : Int) * k := Int.mul_nonneg (by omega) (by omega)
    omega

end OptiVerif.PySlice
