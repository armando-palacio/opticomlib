/-
Algebra for the total-field law of C01: the operator tables `addSpec`, `subSpec`, `rsubSpec` of
`Model/Container.lean` are `Linear` over any commutative additive group (Mathlib's `AddCommGroup`), and the
carrier the driver executes, the Gaussian integers `Cx Int`, is such a group with exactly the model's `+ - neg`.
-/
import OptiVerif.Lemmas.Container
import Mathlib.Algebra.Group.Basic

namespace OptiVerif.Container

variable {α : Type} [AddCommGroup α]

theorem addSpec_linear : (addSpec : OpSpec α).Linear := ⟨add_assoc, add_right_comm, add_add_add_comm⟩

theorem subSpec_linear : (subSpec : OpSpec α).Linear where
  other x y n := (sub_eq_add_neg (x - y) n).symm.trans (sub_sub x y n)
  self x y n := sub_add_eq_add_sub x y n
  both x y n m := sub_add_sub_comm x y n m

theorem rsubSpec_linear : (rsubSpec : OpSpec α).Linear where
  other x y n := add_assoc (-x) y n
  self x y n := by show -x + y + -n = -(x + n) + y; rw [neg_add, add_right_comm]
  both x y n m := by show -x + y + (-n + m) = -(x + n) + (y + m); rw [neg_add, add_add_add_comm]

theorem spec_signal_exprs [Mul α] (x y : α) :
    (addSpec : OpSpec α).fs x y = x + y ∧ (subSpec : OpSpec α).fs x y = x - y ∧
      (rsubSpec : OpSpec α).fs x y = y - x ∧ (mulSpec : OpSpec α).fs x y = x * y :=
  ⟨rfl, rfl, neg_add_eq_sub x y, rfl⟩

instance : Zero (Cx Int) := ⟨⟨0, 0⟩⟩

instance : AddCommGroup (Cx Int) where
  add := (· + ·)
  neg := Neg.neg
  sub := (· - ·)
  add_assoc a b c := by
    show (⟨a.re + b.re + c.re, a.im + b.im + c.im⟩ : Cx Int) = ⟨a.re + (b.re + c.re), a.im + (b.im + c.im)⟩
    rw [Int.add_assoc, Int.add_assoc]
  zero_add a := by
    show (⟨0 + a.re, 0 + a.im⟩ : Cx Int) = a
    rw [Int.zero_add, Int.zero_add]
  add_zero a := by
    show (⟨a.re + 0, a.im + 0⟩ : Cx Int) = a
    rw [Int.add_zero, Int.add_zero]
  add_comm a b := by
    show (⟨a.re + b.re, a.im + b.im⟩ : Cx Int) = ⟨b.re + a.re, b.im + a.im⟩
    rw [Int.add_comm a.re, Int.add_comm a.im]
  neg_add_cancel a := by
    show (⟨-a.re + a.re, -a.im + a.im⟩ : Cx Int) = (⟨0, 0⟩ : Cx Int)
    rw [Int.add_left_neg, Int.add_left_neg]
  sub_eq_add_neg a b := by
    show (⟨a.re - b.re, a.im - b.im⟩ : Cx Int) = ⟨a.re + -b.re, a.im + -b.im⟩
    rw [Int.sub_eq_add_neg, Int.sub_eq_add_neg]
  zero := 0
  nsmul := nsmulRec
  zsmul := zsmulRec
  nsmul_zero _ := rfl
  nsmul_succ _ _ := rfl
  zsmul_zero' _ := rfl
  zsmul_succ' _ _ := rfl
  zsmul_neg' _ _ := rfl

namespace Examples

abbrev GI := Cx Int
def z (a : Int) (b : Int := 0) : GI := ⟨a, b⟩

def xa : Sig GI := ⟨.O, 2, .int, .two [z 1, z 2, z 3] [z 4, z 5, z 6], some (.two [z 0 1, z 0 2, z 0 3] [z 1, z 1, z 1])⟩
def xb : Sig GI := ⟨.O, 2, .float, .two [z 7] [z 8], some (.two [z 1 1] [z 2 2])⟩
def xc : Sig GI := ⟨.O, 2, .int, .two [z 1, z 2] [z 3, z 4], none⟩

theorem xa_wf : WF xa := by decide
theorem xb_wf : WF xb := by decide
theorem xc_wf : WF xc := by decide

end Examples

end OptiVerif.Container
