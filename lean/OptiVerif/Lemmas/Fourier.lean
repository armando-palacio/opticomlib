/-
DFT inversion and Parseval at ℝ/ℂ: one inversion formula for any primitive root of unity gives both round trips
(roots ζ, ζ⁻¹) and Parseval; `dft`, `idft` are instances of a transform given point by point (`rowT`).
-/
import OptiVerif.Lemmas.NumReal
import OptiVerif.Lemmas.Shift
import Mathlib.RingTheory.RootsOfUnity.Complex

namespace OptiVerif.Fourier
open Finset

theorem toC_sumN (n : ℕ) (f : ℕ → Cx ℝ) : (sumN n f).toC = ∑ j ∈ range n, (f j).toC := by
  induction n with
  | zero => simp [sumN, toC_czero]
  | succ n ih => simp [sumN, Cx.toC_add, ih, Finset.sum_range_succ]

noncomputable def zeta (n : ℕ) : ℂ := Complex.exp (2 * Real.pi * Complex.I / n)

theorem zeta_prim (n : ℕ) (hn : n ≠ 0) : IsPrimitiveRoot (zeta n) n := Complex.isPrimitiveRoot_exp n hn

theorem toC_cis_ang (n m : ℕ) : (Cx.cis (ang n m : ℝ)).toC = zeta n ^ m := by
  rw [Cx.toC_cis, zeta, ← Complex.exp_nat_mul, ang_real]
  congr 1
  push_cast
  ring

theorem toC_cis_neg_ang (n m : ℕ) : (Cx.cis (-(ang n m : ℝ))).toC = (zeta n ^ m)⁻¹ := by
  rw [Cx.toC_cis, ← toC_cis_ang, Cx.toC_cis, ← Complex.exp_neg]
  congr 1
  push_cast
  ring

theorem toC_dftAt (x : ℕ → Cx ℝ) (n k : ℕ) :
    (dftAt x n k).toC = ∑ j ∈ range n, (x j).toC * (zeta n ^ (j * k))⁻¹ := by
  simp only [dftAt, toC_sumN, Cx.toC_mul, toC_cis_neg_ang]

theorem toC_idftAt (X : ℕ → Cx ℝ) (n m : ℕ) :
    (idftAt X n m).toC = ∑ k ∈ range n, (X k).toC * (1 / (n : ℂ) * zeta n ^ (k * m)) := by
  simp only [idftAt, Cx.toC_smul', toC_sumN, Cx.toC_mul, toC_cis_ang, Finset.mul_sum]
  refine Finset.sum_congr rfl fun k _ => ?_
  push_cast
  ring

theorem ortho_primitive {w : ℂ} {n : ℕ} (hw : IsPrimitiveRoot w n) {a b : ℕ} (ha : a < n)
    (hb : b < n) : ∑ k ∈ range n, w ^ (a * k) * (w ^ (b * k))⁻¹ = if a = b then (n : ℂ) else 0 := by
  have hb0 : w ^ b ≠ 0 := pow_ne_zero _ (hw.ne_zero (by omega))
  -- a geometric sum with ratio r = w ^ a / w ^ b, r ^ n = 1
  have hterm : ∀ k, w ^ (a * k) * (w ^ (b * k))⁻¹ = (w ^ a * (w ^ b)⁻¹) ^ k := fun k => by
    rw [pow_mul, pow_mul, mul_pow, inv_pow]
  simp only [hterm]
  split_ifs with hab
  · rw [hab, mul_inv_cancel₀ hb0]
    simp only [one_pow, sum_const, card_range, nsmul_eq_mul, mul_one]
  · have hr1 : w ^ a * (w ^ b)⁻¹ ≠ 1 := fun h => hab (hw.pow_inj ha hb ((mul_inv_eq_one₀ hb0).mp h))
    have hrn : (w ^ a * (w ^ b)⁻¹) ^ n = 1 := by
      rw [mul_pow, inv_pow, pow_right_comm, pow_right_comm w b, hw.pow_eq_one, one_pow, one_pow,
        inv_one, mul_one]
    have := geom_sum_mul (w ^ a * (w ^ b)⁻¹) n
    rw [hrn, sub_self] at this
    exact (mul_eq_zero.mp this).resolve_right (sub_ne_zero.mpr hr1)

theorem inversion {w : ℂ} {n : ℕ} (hw : IsPrimitiveRoot w n) (x : ℕ → ℂ) {m : ℕ} (hm : m < n) :
    ∑ k ∈ range n, (∑ j ∈ range n, x j * (w ^ (j * k))⁻¹) * w ^ (k * m) = n * x m := by
  simp only [Finset.sum_mul]
  rw [Finset.sum_comm]
  have : ∀ j ∈ range n, ∑ k ∈ range n, x j * (w ^ (j * k))⁻¹ * w ^ (k * m)
      = x j * (if m = j then (n : ℂ) else 0) := fun j hj => by
    rw [← ortho_primitive hw hm (Finset.mem_range.mp hj), Finset.mul_sum]
    exact Finset.sum_congr rfl fun k _ => by rw [mul_comm k m, mul_assoc, mul_comm (_⁻¹)]
  rw [Finset.sum_congr rfl this]
  simp only [mul_ite, mul_zero, Finset.sum_ite_eq, Finset.mem_range, hm, if_true]
  rw [mul_comm]

theorem idftAt_dftAt (x : ℕ → Cx ℝ) (n m : ℕ) (hm : m < n) :
    idftAt (fun k => dftAt x n k) n m = x m := by
  have hn : (n : ℂ) ≠ 0 := by exact_mod_cast (show n ≠ 0 by omega)
  apply Cx.toC_injective
  -- pull 1/n out of both sums: the left side of `inversion` remains
  simp only [toC_idftAt, toC_dftAt, mul_left_comm _ (1 / (n : ℂ)), ← Finset.mul_sum]
  rw [inversion (zeta_prim n (by omega)) _ hm, one_div, inv_mul_cancel_left₀ hn]

theorem dftAt_idftAt (X : ℕ → Cx ℝ) (n m : ℕ) (hm : m < n) :
    dftAt (fun j => idftAt X n j) n m = X m := by
  have hn : (n : ℂ) ≠ 0 := by exact_mod_cast (show n ≠ 0 by omega)
  apply Cx.toC_injective
  simp only [toC_idftAt, toC_dftAt, mul_left_comm _ (1 / (n : ℂ)), mul_assoc, ← Finset.mul_sum]
  have := inversion (zeta_prim n (by omega)).inv (fun k => (X k).toC) hm
  simp only [inv_pow, inv_inv] at this
  rw [this, one_div, inv_mul_cancel_left₀ hn]

theorem conj_inv_pow {w : ℂ} {n : ℕ} (hw : w ^ n = 1) (hn : n ≠ 0) (m : ℕ) :
    (starRingEnd ℂ) ((w ^ m)⁻¹) = w ^ m := by
  have : ‖w ^ m‖ = 1 := by rw [norm_pow, Complex.norm_eq_one_of_pow_eq_one hw hn, one_pow]
  rw [Complex.inv_eq_conj this, Complex.conj_conj]

theorem normSq_eq_mul_conj (z : Cx ℝ) : ((z.normSq : ℝ) : ℂ) = z.toC * (starRingEnd ℂ) z.toC := by
  rw [Complex.mul_conj, Cx.toC_normSq]

theorem parseval_fun (x : ℕ → Cx ℝ) (n : ℕ) :
    ∑ k ∈ range n, (dftAt x n k).normSq = (n : ℝ) * ∑ j ∈ range n, (x j).normSq := by
  rcases eq_or_ne n 0 with rfl | hn
  · simp
  apply Complex.ofReal_injective
  simp only [Complex.ofReal_sum, Complex.ofReal_mul, Complex.ofReal_natCast, normSq_eq_mul_conj]
  -- conj X_k = Σ_j conj x_j ζ^{kj}; the sum of X_k ζ^{kj} over k is `inversion`
  have hc : ∀ k, (starRingEnd ℂ) (dftAt x n k).toC = ∑ j ∈ range n, (starRingEnd ℂ) (x j).toC * zeta n ^ (k * j) :=
    fun k => by simp only [toC_dftAt, map_sum, map_mul, conj_inv_pow (zeta_prim n hn).pow_eq_one hn, mul_comm k]
  simp only [hc, Finset.mul_sum]
  rw [Finset.sum_comm]
  refine Finset.sum_congr rfl fun j hj => ?_
  rw [← mul_assoc, ← inversion (zeta_prim n hn) (fun j => (x j).toC) (Finset.mem_range.mp hj), Finset.sum_mul]
  exact Finset.sum_congr rfl fun k _ => by rw [toC_dftAt, mul_assoc, mul_comm (zeta n ^ _)]

theorem nth_eq_getElem (xs : List (Cx ℝ)) (j : ℕ) (hj : j < xs.length) : nth xs j = xs[j] := by
  simp [nth, hj]

/-- `dft = rowT dftAt`, `idft = rowT idftAt` -/
def rowT (T : (ℕ → Cx ℝ) → ℕ → ℕ → Cx ℝ) (xs : List (Cx ℝ)) : List (Cx ℝ) :=
  (List.range xs.length).map (T (nth xs) xs.length)

/-- all that linearity needs; no user looks at `K` -/
def IsSum (T : (ℕ → Cx ℝ) → ℕ → ℕ → Cx ℝ) (K : ℕ → ℕ → ℕ → ℂ) : Prop :=
  ∀ x n k, (T x n k).toC = ∑ j ∈ range n, (x j).toC * K n j k

section
variable {T T' : (ℕ → Cx ℝ) → ℕ → ℕ → Cx ℝ} {K : ℕ → ℕ → ℕ → ℂ}

theorem IsSum.congr (hT : IsSum T K) {x y : ℕ → Cx ℝ} {n : ℕ} (h : ∀ j < n, x j = y j) (k : ℕ) :
    T x n k = T y n k := by
  apply Cx.toC_injective
  rw [hT, hT]
  exact Finset.sum_congr rfl fun j hj => by rw [h j (Finset.mem_range.mp hj)]

theorem IsSum.add (hT : IsSum T K) (x y : ℕ → Cx ℝ) (n k : ℕ) :
    T (fun j => x j + y j) n k = T x n k + T y n k := by
  apply Cx.toC_injective
  simp only [hT _ _ _, Cx.toC_add, add_mul, Finset.sum_add_distrib]

theorem IsSum.smul (hT : IsSum T K) (c : Cx ℝ) (x : ℕ → Cx ℝ) (n k : ℕ) :
    T (fun j => c * x j) n k = c * T x n k := by
  apply Cx.toC_injective
  simp only [hT _ _ _, Cx.toC_mul, Finset.mul_sum, mul_assoc]

theorem IsSum.zero (hT : IsSum T K) (n k : ℕ) : T (fun _ => czero) n k = czero := by
  apply Cx.toC_injective
  simp only [hT _ _ _, toC_czero, zero_mul, Finset.sum_const_zero]

theorem length_rowT (xs : List (Cx ℝ)) : (rowT T xs).length = xs.length := by simp [rowT]

theorem getElem_rowT (xs : List (Cx ℝ)) (k : ℕ) (hk : k < (rowT T xs).length) :
    (rowT T xs)[k] = T (nth xs) xs.length k := by simp [rowT]

theorem nth_rowT (xs : List (Cx ℝ)) (k : ℕ) (hk : k < xs.length) : nth (rowT T xs) k = T (nth xs) xs.length k := by
  rw [nth_eq_getElem _ _ (by rwa [length_rowT]), getElem_rowT]

theorem rowT_rowT (hT' : IsSum T' K) (h : ∀ x n m, m < n → T' (T x n) n m = x m) (xs : List (Cx ℝ)) :
    rowT T' (rowT T xs) = xs := by
  apply List.ext_getElem
  · rw [length_rowT, length_rowT]
  · intro m _ hm
    rw [getElem_rowT, length_rowT, hT'.congr (fun j hj => nth_rowT xs j hj), h _ _ _ hm, nth_eq_getElem _ _ hm]

end

theorem nth_dft (xs : List (Cx ℝ)) (k : ℕ) (hk : k < xs.length) :
    nth (dft xs) k = dftAt (nth xs) xs.length k := nth_rowT xs k hk

theorem nth_idft (xs : List (Cx ℝ)) (k : ℕ) (hk : k < xs.length) :
    nth (idft xs) k = idftAt (nth xs) xs.length k := nth_rowT xs k hk

theorem idft_dft (xs : List (Cx ℝ)) : idft (dft xs) = xs := rowT_rowT toC_idftAt idftAt_dftAt xs

theorem dft_idft (xs : List (Cx ℝ)) : dft (idft xs) = xs := rowT_rowT toC_dftAt dftAt_idftAt xs

theorem sumSq_eq_sum (xs : List (Cx ℝ)) : sumSq xs = ∑ j ∈ range xs.length, (nth xs j).normSq := by
  induction xs with
  | nil => simp [sumSq]
  | cons z zs ih =>
    rw [sumSq, List.length_cons, Finset.sum_range_succ', ih, add_comm]
    rfl

theorem sumSq_eq_map_sum (xs : List (Cx ℝ)) : sumSq xs = (xs.map Cx.normSq).sum := by
  induction xs with
  | nil => simp [sumSq]
  | cons z zs ih => simp [sumSq, ih]

theorem sumSq_pointwise {c : ℝ} {ys xs : List (Cx ℝ)} (hl : ys.length = xs.length)
    (h : ∀ k (hk : k < ys.length), ys[k].normSq = c * (xs[k]'(hl ▸ hk)).normSq) : sumSq ys = c * sumSq xs := by
  rw [sumSq_eq_map_sum, sumSq_eq_map_sum, ← List.sum_map_mul_left]
  congr 1
  exact List.ext_getElem (by simp [hl]) fun k hk _ => by simpa using h k (by simpa using hk)

theorem sumSq_pointwise_le {c : ℝ} {ys xs : List (Cx ℝ)} (hl : ys.length = xs.length)
    (h : ∀ k (hk : k < ys.length), ys[k].normSq ≤ c * (xs[k]'(hl ▸ hk)).normSq) : sumSq ys ≤ c * sumSq xs := by
  rw [sumSq_eq_map_sum, sumSq_eq_map_sum, ← List.sum_map_mul_left]
  exact List.Forall₂.sum_le_sum (List.forall₂_iff_get.mpr ⟨by simp [hl], fun k hk _ => by
    simpa using h k (by simpa using hk)⟩)

theorem sumSq_dft (xs : List (Cx ℝ)) : sumSq (dft xs) = (xs.length : ℝ) * sumSq xs := by
  rw [sumSq_eq_sum, sumSq_eq_sum, length_dft, ← parseval_fun]
  exact Finset.sum_congr rfl fun k hk => by rw [nth_dft xs k (Finset.mem_range.mp hk)]

/-- with `n` divided out nothing downstream splits on `n = 0` -/
theorem sumSq_dft_div (xs : List (Cx ℝ)) : sumSq (dft xs) / xs.length = sumSq xs := by
  rcases eq_or_ne xs [] with rfl | h
  · simp [sumSq]
  · rw [sumSq_dft, mul_div_cancel_left₀ _ (Nat.cast_ne_zero.mpr (mt List.length_eq_zero_iff.mp h))]

theorem sumSq_idft_div (X : List (Cx ℝ)) : sumSq (idft X) = sumSq X / X.length := by
  rw [← sumSq_dft_div (idft X), dft_idft, length_idft]

end OptiVerif.Fourier
