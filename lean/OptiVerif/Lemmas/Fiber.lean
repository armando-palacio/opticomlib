/-
Linear propagation: `applyH` is linear, multiplicative and scales the energy by a constant |H|²; `respRow` says it
once for `dmRow` and `fiberLinRow`, whose responses at one frequency are `dmResp`, `fiberResp`.
-/
import OptiVerif.Model.Fiber
import OptiVerif.Lemmas.FourierLinear

namespace OptiVerif.Fiber
open OptiVerif.Fourier

theorem length_applyH (H xs : List (Cx ℝ)) (hlen : H.length = xs.length) : (applyH H xs).length = xs.length := by
  simp [applyH, length_idft, length_dft, hlen]

theorem sumSq_applyH_div (H xs : List (Cx ℝ)) (hlen : H.length = xs.length) :
    sumSq (applyH H xs) = sumSq (List.zipWith (· * ·) (dft xs) H) / xs.length := by
  rw [applyH, sumSq_idft_div, List.length_zipWith, length_dft, hlen, min_self]

theorem sumSq_applyH (c : ℝ) (H xs : List (Cx ℝ)) (hlen : H.length = xs.length)
    (hH : ∀ h ∈ H, h.normSq = c) : sumSq (applyH H xs) = c * sumSq xs := by
  rw [sumSq_applyH_div H xs hlen, ← sumSq_dft_div xs, ← mul_div_assoc]
  congr 1
  exact sumSq_pointwise (by simp [length_dft, hlen]) fun k _ => by
    rw [List.getElem_zipWith, Cx.normSq_mul, hH _ (List.getElem_mem _), mul_comm]

theorem sumSq_applyH_le (H xs : List (Cx ℝ)) (hlen : H.length = xs.length)
    (hH : ∀ h ∈ H, h.normSq ≤ 1) : sumSq (applyH H xs) ≤ sumSq xs := by
  rw [sumSq_applyH_div H xs hlen, ← sumSq_dft_div xs]
  refine div_le_div_of_nonneg_right ((sumSq_pointwise_le (c := 1) (by simp [length_dft, hlen]) fun k _ => ?_).trans_eq (one_mul _))
    (Nat.cast_nonneg _)
  rw [List.getElem_zipWith, Cx.normSq_mul, mul_comm]
  exact mul_le_mul_of_nonneg_right (hH _ (List.getElem_mem _)) (Cx.normSq_nonneg _)

theorem applyH_applyH (H1 H2 xs : List (Cx ℝ)) :
    applyH H2 (applyH H1 xs) = applyH (List.zipWith (· * ·) H1 H2) xs := by
  simp only [applyH, dft_idft]
  congr 1
  apply List.ext_getElem
  · simp only [List.length_zipWith, Nat.min_assoc]
  · intro k _ _
    simp only [List.getElem_zipWith, Cx.mul_assoc']

theorem applyH_ones (H xs : List (Cx ℝ)) (hlen : H.length = xs.length)
    (hH : ∀ h ∈ H, h = (⟨1, 0⟩ : Cx ℝ)) : applyH H xs = xs := by
  have : List.zipWith (· * ·) (dft xs) H = dft xs := by
    apply List.ext_getElem
    · rw [List.length_zipWith, length_dft, hlen, min_self]
    · intro k _ _
      rw [List.getElem_zipWith, hH _ (List.getElem_mem _), Cx.mul_one']
  rw [applyH, this, idft_dft]

theorem applyH_add (H xs ys : List (Cx ℝ)) (h : xs.length = ys.length) :
    applyH H (addRows xs ys) = addRows (applyH H xs) (applyH H ys) := by
  have : List.zipWith (· * ·) (addRows (dft xs) (dft ys)) H
      = addRows (List.zipWith (· * ·) (dft xs) H) (List.zipWith (· * ·) (dft ys) H) := by
    apply List.ext_getElem
    · simp only [addRows, List.length_zipWith, length_dft, h, Nat.min_self]
    · intro k _ _
      simp only [addRows, List.getElem_zipWith, Cx.add_mul']
  rw [applyH, dft_add xs ys h, this]
  exact idft_add _ _ (by rw [List.length_zipWith, List.length_zipWith, length_dft, length_dft, h])

theorem applyH_zeroRow (H : List (Cx ℝ)) (n : ℕ) (hH : H.length = n) : applyH H (zeroRow n) = zeroRow n := by
  have : List.zipWith (· * ·) (zeroRow n) H = zeroRow n := by
    apply List.ext_getElem
    · simp [zeroRow, hH]
    · intro k _ _
      simp only [zeroRow, List.getElem_zipWith, List.getElem_replicate, czero_eq, Cx.zero_mul']
  rw [applyH, dft_zeroRow, this, idft_zeroRow]

/-- the common form of `dmRow` and `fiberLinRow`; a device of the proofs, the driver runs the two model functions -/
noncomputable def respRow (φ : ℝ → Cx ℝ) (fs : ℝ) (xs : List (Cx ℝ)) : List (Cx ℝ) :=
  applyH ((wAxis xs.length fs).map φ) xs

section
variable (φ ψ : ℝ → Cx ℝ) (fs : ℝ)

theorem length_resp (n : ℕ) : ((wAxis n fs).map φ).length = n := by rw [List.length_map, length_wAxis]

theorem length_respRow (xs : List (Cx ℝ)) : (respRow φ fs xs).length = xs.length :=
  length_applyH _ _ (length_resp φ fs _)

theorem sumSq_respRow (c : ℝ) (hφ : ∀ w, (φ w).normSq = c) (xs : List (Cx ℝ)) :
    sumSq (respRow φ fs xs) = c * sumSq xs :=
  sumSq_applyH c _ _ (length_resp φ fs _) (List.forall_mem_map.mpr fun w _ => hφ w)

theorem respRow_congr {φ ψ : ℝ → Cx ℝ} (h : ∀ w, φ w = ψ w) (xs : List (Cx ℝ)) : respRow φ fs xs = respRow ψ fs xs := by
  rw [funext h]

/-- the inner response comes first in the product -/
theorem respRow_respRow (xs : List (Cx ℝ)) :
    respRow ψ fs (respRow φ fs xs) = respRow (fun w => φ w * ψ w) fs xs := by
  rw [respRow, length_respRow, respRow, applyH_applyH, List.zipWith_map, List.zipWith_self, respRow]

theorem respRow_one (hφ : ∀ w, φ w = ⟨1, 0⟩) (xs : List (Cx ℝ)) : respRow φ fs xs = xs :=
  applyH_ones _ _ (length_resp φ fs _) (List.forall_mem_map.mpr fun w _ => hφ w)

theorem respRow_add (xs ys : List (Cx ℝ)) (h : xs.length = ys.length) :
    respRow φ fs (addRows xs ys) = addRows (respRow φ fs xs) (respRow φ fs ys) := by
  rw [respRow, length_addRows xs ys h, respRow, respRow, ← h]
  exact applyH_add _ xs ys h

theorem respRow_zeroRow (n : ℕ) : respRow φ fs (zeroRow n) = zeroRow n := by
  rw [respRow, length_zeroRow]
  exact applyH_zeroRow _ n (length_resp φ fs _)

end

noncomputable def dmResp (dConv D wk : ℝ) : Cx ℝ := Cx.cis (-(wk * wk * (D * dConv) / ((2 : ℕ) : ℝ)))

noncomputable def fiberResp (wConv alphaP beta2 beta3 L wk : ℝ) : Cx ℝ :=
  let wp := wk * wConv
  Cx.exp ⟨(-(alphaP / ((2 : ℕ) : ℝ))) * L,
          (-(beta2 / ((2 : ℕ) : ℝ) * (wp * wp)) - beta3 / ((6 : ℕ) : ℝ) * (wp * wp * wp)) * L⟩

theorem dmH_eq (dConv : ℝ) (w : List ℝ) (D : ℝ) : dmH dConv w D = w.map (dmResp dConv D) := rfl

theorem fiberH_eq (wConv : ℝ) (w : List ℝ) (alphaP b2 b3 L : ℝ) :
    fiberH wConv w alphaP b2 b3 L = w.map (fiberResp wConv alphaP b2 b3 L) := rfl

theorem dmRow_eq (dConv fs D : ℝ) (xs : List (Cx ℝ)) : dmRow dConv fs D xs = respRow (dmResp dConv D) fs xs := rfl

theorem fiberLinRow_eq (wConv kappa fs alpha b2 b3 L : ℝ) (xs : List (Cx ℝ)) :
    fiberLinRow wConv kappa fs alpha b2 b3 L xs = respRow (fiberResp wConv (alpha / kappa) b2 b3 L) fs xs := rfl

theorem normSq_dmResp (dConv D wk : ℝ) : (dmResp dConv D wk).normSq = 1 := Cx.normSq_cis _

theorem dmResp_zero (dConv wk : ℝ) : dmResp dConv 0 wk = ⟨1, 0⟩ := by
  rw [dmResp, zero_mul, mul_zero, zero_div, neg_zero, Cx.cis_zero]

theorem dmResp_mul (dConv D1 D2 wk : ℝ) : dmResp dConv D1 wk * dmResp dConv D2 wk = dmResp dConv (D1 + D2) wk := by
  rw [dmResp, dmResp, Cx.cis_add, dmResp]
  congr 1
  ring

theorem normSq_fiberResp (wConv alphaP b2 b3 L wk : ℝ) :
    (fiberResp wConv alphaP b2 b3 L wk).normSq = Real.exp (-alphaP * L) := by
  rw [fiberResp, Cx.normSq_exp]
  congr 1
  ring

theorem fiberResp_mul (wConv alphaP b2 b3 L1 L2 wk : ℝ) :
    fiberResp wConv alphaP b2 b3 L1 wk * fiberResp wConv alphaP b2 b3 L2 wk
      = fiberResp wConv alphaP b2 b3 (L1 + L2) wk := by
  rw [fiberResp, fiberResp, fiberResp, Cx.exp_mul]
  congr 1
  ext <;> simp only [Cx.add_re, Cx.add_im, mul_add]

theorem fiberResp_eq_dmResp (wConv kappa b2 L wk : ℝ) :
    fiberResp wConv (0 / kappa) b2 0 L wk = dmResp (wConv * wConv) (b2 * L) wk := by
  rw [dmResp, ← Cx.exp_zero_re, fiberResp]
  congr 2 <;> ring

theorem fiberH_normSq (wConv : ℝ) (w : List ℝ) (alphaP b2 b3 L : ℝ) :
    ∀ g ∈ fiberH wConv w alphaP b2 b3 L, g.normSq = Real.exp (-alphaP * L) :=
  List.forall_mem_map.mpr fun wk _ => normSq_fiberResp wConv alphaP b2 b3 L wk

end OptiVerif.Fiber
