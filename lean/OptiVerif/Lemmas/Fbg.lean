/-
The FBG model at ℝ (C16): its right-hand side in ℂ is the system of `FbgOde.Solves`.  `Rs, Ss` of `finish` are a solver's end
state (lists), unrelated to the functions R, S of `solves_of_rhs`.
-/
import OptiVerif.Model.Fbg
import OptiVerif.Lemmas.NumList
import OptiVerif.Lemmas.Fiber
import OptiVerif.Lemmas.FbgOde
import OptiVerif.Lemmas.ConvReal

namespace OptiVerif

namespace Fbg
open OptiVerif.Fourier OptiVerif.NumList Complex

theorem toC_mulI (a : Cx ℝ) : (mulI a).toC = I * a.toC := by
  apply Complex.ext <;> simp [mulI]

theorem toC_mulNegI (a : Cx ℝ) : (mulNegI a).toC = -I * a.toC := by
  apply Complex.ext <;> simp [mulNegI]

/-- the inverse of the bridge `Cx ℝ → ℂ` -/
def ofC (z : ℂ) : Cx ℝ := ⟨z.re, z.im⟩
theorem toC_ofC (z : ℂ) : (ofC z).toC = z := by apply Complex.ext <;> simp [ofC]

theorem toC_rhs (p : Option ℝ) (F z : ℝ) (c : Coef ℝ) (Rv Sv : Cx ℝ) :
    (rhs p F z c Rv Sv).1.toC = I * (((sigmaHat p F z c : ℝ) : ℂ) * Rv.toC + ((kappa p c : ℝ) : ℂ) * Sv.toC) ∧
    (rhs p F z c Rv Sv).2.toC = -I * (((sigmaHat p F z c : ℝ) : ℂ) * Sv.toC + ((kappa p c : ℝ) : ℂ) * Rv.toC) := by
  simp only [rhs, toC_mulI, toC_mulNegI, Cx.toC_add, Cx.toC_smul', and_self]

theorem solves_of_rhs {prof : ℝ → Option ℝ} {F a b : ℝ} {c : Coef ℝ} {Rf Sf : ℝ → ℂ}
    (hR' : ∀ z ∈ Set.Icc a b,
      HasDerivWithinAt Rf ((rhs (prof z) F z c (ofC (Rf z)) (ofC (Sf z))).1.toC) (Set.Icc a b) z)
    (hS' : ∀ z ∈ Set.Icc a b,
      HasDerivWithinAt Sf ((rhs (prof z) F z c (ofC (Rf z)) (ofC (Sf z))).2.toC) (Set.Icc a b) z) :
    FbgOde.Solves (fun z => sigmaHat (prof z) F z c) (fun z => kappa (prof z) c) a b Rf Sf :=
  ⟨fun z hz => by simpa only [toC_rhs, toC_ofC] using hR' z hz,
   fun z hz => by simpa only [toC_rhs, toC_ofC] using hS' z hz⟩

/-- the code's interval, `t_span = [0.5, -0.5]` -/
theorem half_le : (-(1 / 2) : ℝ) ≤ 1 / 2 := by norm_num

theorem half_sub : (1 / 2 : ℝ) - -(1 / 2) = 1 := by norm_num

theorem bragg_reflectivity_half {R S : ℝ → ℂ} (κ0 : ℝ) {p P : ℝ → ℝ}
    (hP : ∀ z ∈ Set.Icc (-(1 / 2) : ℝ) (1 / 2), HasDerivAt P (p z) z)
    (hp : ∀ z ∈ Set.Icc (-(1 / 2) : ℝ) (1 / 2), |p z| ≤ 1)
    (h : FbgOde.Solves (fun _ => 0) (fun z => κ0 * p z) (-(1 / 2)) (1 / 2) R S) (hR : R (1 / 2) = 1) (hS : S (1 / 2) = 0) :
    ‖S (-(1 / 2)) / R (-(1 / 2))‖ ^ 2 = Real.tanh (κ0 * (P (1 / 2) - P (-(1 / 2)))) ^ 2 :=
  (FbgOde.bragg_reflectivity κ0 1 p P (fun z hz => (hP z hz).hasDerivWithinAt) hp half_le h hR hS).2

/-- the Boolean is `complete`'s `len` -/
theorem lengthOf_cases (neff : ℝ) (kL L N : Option ℝ) :
    (∃ len : ℝ → (ℝ → ℝ) → ℝ, ∀ ld f, lengthOf neff ld f kL L N = .ok (len ld f)) ∧
        (L.isSome || kL.isSome || N.isSome) = true ∨
      (∀ ld f, lengthOf neff ld f kL L N = .error .ValueError) ∧ (L.isSome || kL.isSome || N.isSome) = false := by
  rcases kL with _ | k
  · rcases N with _ | n
    · rcases L with _ | l
      · exact .inr ⟨fun _ _ => rfl, rfl⟩
      · exact .inl ⟨⟨fun _ _ => l, fun _ _ => rfl⟩, rfl⟩
    · exact .inl ⟨⟨fun ld _ => nToL neff ld n, fun _ _ => rfl⟩, by simp⟩
  · exact .inl ⟨⟨fun _ f => f k, fun _ _ => rfl⟩, by simp⟩

theorem resolve_cases (c0 : ℝ) (s : Spec ℝ) :
    match resolve c0 s with
    | .ok _ => complete s = true
    | .error e => e = .ValueError ∧ complete s = false := by
  -- the if-ladder in the code's order
  obtain ⟨neff, v, ld, fc, kL, L, N, dn, vdn⟩ := s
  have len := lengthOf_cases neff kL L N
  rcases fc with _ | fc
  · rcases ld with _ | ld
    · exact ⟨rfl, rfl⟩
    · rcases dn with _ | dn
      · rcases vdn with _ | vdn
        · rcases kL with _ | k
          · exact ⟨rfl, rfl⟩
          · rcases N with _ | n
            · rcases L with _ | l
              · exact ⟨rfl, rfl⟩
              · exact rfl
            · exact Bool.or_true _
        · rcases len with ⟨⟨len, hl⟩, hb⟩ | ⟨hl, hb⟩ <;> simp only [resolve, complete, hl, hb, true_and] <;> rfl
      · rcases len with ⟨⟨len, hl⟩, hb⟩ | ⟨hl, hb⟩ <;> simp only [resolve, complete, hl, hb, true_and] <;> rfl
  · rcases dn with _ | dn
    · rcases vdn with _ | vdn
      · exact ⟨rfl, rfl⟩
      · rcases len with ⟨⟨len, hl⟩, hb⟩ | ⟨hl, hb⟩ <;> simp only [resolve, complete, hl, hb, true_and] <;> rfl
    · rcases len with ⟨⟨len, hl⟩, hb⟩ | ⟨hl, hb⟩ <;> simp only [resolve, complete, hl, hb, true_and] <;> rfl

theorem gdCorrect_normSq (psConv : ℝ) (ws : List ℝ) (tau : ℝ) (H : List (Cx ℝ)) :
    (gdCorrect psConv ws tau H).map Cx.normSq = (List.zipWith (fun h _ => h.normSq) H ws) := by
  simp [gdCorrect, Cx.normSq_mul_cis]

theorem finish_eq_ok {psConv c0 f0 fs neff : ℝ} {d : Design ℝ} {ff : Bool} {Rs Ss : List (Cx ℝ)} {tau : List ℝ}
    {rows : List (List (Cx ℝ))} {o : Out ℝ} (h : finish psConv c0 f0 fs neff d ff Rs Ss tau rows = .ok o) :
    (o.H = rho Rs Ss ∨ ∃ t, o.H = gdCorrect psConv (wShift Rs.length fs) t (rho Rs Ss)) ∧
      o.rows = rows.map (applyRow o.H) ∧ o.H.length = (rho Rs Ss).length := by
  obtain ⟨-, h⟩ := ite_else_error_eq_ok.mp h
  split at h
  · cases h
  · rename_i t _
    cases h
    cases ff
    · exact ⟨.inl rfl, rfl, rfl⟩
    · refine ⟨.inr ⟨t, rfl⟩, rfl, ?_⟩
      simp only [gdCorrect, wShift, rho, ↓reduceIte, List.length_zipWith, length_fftshift, length_wAxis]
      omega

/-- both transcribe `utils.rcos` -/
theorem rcos_eq_conv (x alpha T : ℝ) : rcos x alpha T = Conv.rcos x alpha T := by
  rw [Conv.rcos_real]
  simp only [rcos, one_real, two_real, zero_real, absR_real, Transc.cos_real, Transc.pi_real, le_real, Cmp.lt_real]

theorem abs_rcosProfile_le (z : ℝ) : |rcosProfile z| ≤ 1 := by
  rw [rcosProfile, rcos_eq_conv, abs_of_nonneg (Conv.rcos_range _ _ _).1]
  exact (Conv.rcos_range _ _ _).2

theorem rcosProfile_eq (z : ℝ) (hz : |z| ≤ 1 / 2) :
    rcosProfile z = 1 / 2 * (1 + Real.cos (2 * Real.pi * z)) := by
  rw [rcosProfile, rcos_eq_conv, Conv.rcos_real, one_real, two_real, sub_self, zero_div, sub_zero]
  split_ifs with h0 h1
  · rw [abs_nonpos_iff.mp h0, mul_zero]
    norm_num
  · exact absurd (h1.trans_le hz) (by norm_num)
  · rw [← Real.cos_abs (2 * Real.pi * z), abs_mul, abs_of_pos Real.two_pi_pos, div_one, mul_comm Real.pi]

theorem parabolicProfile_eq (z : ℝ) : parabolicProfile z = 1 - 4 * z ^ 2 := by
  simp [parabolicProfile]
  ring

theorem gaussProfile_eq (z : ℝ) : gaussProfile z = Real.exp (-(4 * Real.log 2 * (9 * z ^ 2))) := by
  simp only [gaussProfile, Transc.log_real, two_real]
  congr 1
  ring

end Fbg
end OptiVerif
