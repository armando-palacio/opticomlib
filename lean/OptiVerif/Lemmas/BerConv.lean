/-
`Ber.gQ` is a second definition with the body of `GaussQ.gQ`: `GaussQ.gQ_spec` is accepted for it by unfolding both.
`P(s0·Z0 − s1·Z1 ≤ μ)` is computed twice: as the law `N(0, s0² + s1²)` of the sum of two independent Gaussians, and by
integrating out `Z1`, which gives the Gaussian-weighted integral the code hands to `quad`.
-/
import OptiVerif.Lemmas.BerSoft
import OptiVerif.Lemmas.GaussQ
import Mathlib.MeasureTheory.Group.Convolution

open MeasureTheory ProbabilityTheory Set

namespace OptiVerif.Ber

/-- the upper tail of the standard normal law: what `0.5*erfc(x/√2)` computes -/
noncomputable def gQ (x : ℝ) : ℝ := ((gaussianReal 0 1) (Ioi x)).toReal

theorem gQ_spec : QSpec gQ := GaussQ.gQ_spec

theorem gQ_measurable : Measurable gQ := gQ_spec.anti.measurable

open scoped ENNReal NNReal

noncomputable abbrev γ : Measure ℝ := gaussianReal 0 1

theorem map_mul_Iic (c : ℝ) (hc : 0 < c) (t : ℝ) : (γ.map (c * ·)) (Iic t) = ENNReal.ofReal (1 - gQ (t / c)) := by
  rw [Measure.map_apply (by fun_prop) measurableSet_Iic]
  have : (fun x => c * x) ⁻¹' Iic t = Iic (t / c) := by
    ext x; simp only [mem_preimage, mem_Iic]; rw [le_div_iff₀ hc, mul_comm]
  rw [this, ← compl_Ioi, prob_compl_eq_one_sub measurableSet_Ioi, gQ, ENNReal.ofReal_sub _ ENNReal.toReal_nonneg,
    ENNReal.ofReal_one, ENNReal.ofReal_toReal (measure_ne_top _ _)]

theorem gaussian_diff_cdf_eq_lintegral (mu s0 s1 : ℝ) (hs0 : 0 < s0) (hs1 : 0 < s1) :
    ENNReal.ofReal (1 - gQ (mu / Real.sqrt (s0 ^ 2 + s1 ^ 2))) =
      ∫⁻ x, ENNReal.ofReal (1 - gQ ((mu + s1 * x) / s0)) ∂γ := by
  have hσ : 0 < Real.sqrt (s0 ^ 2 + s1 ^ 2) := Real.sqrt_pos.mpr (by positivity)
  have hmap : ∀ c : ℝ, γ.map (c * ·) = gaussianReal 0 (NNReal.mk (c ^ 2) (sq_nonneg c)) := fun c => by
    simpa using gaussianReal_map_const_mul (μ := 0) (v := 1) c
  have hlaw : (γ.map ((-s1) * ·)) ∗ (γ.map (s0 * ·)) = γ.map (Real.sqrt (s0 ^ 2 + s1 ^ 2) * ·) := by
    rw [hmap, hmap, hmap, gaussianReal_conv_gaussianReal, add_zero]
    congr 1
    ext
    simp only [NNReal.coe_add, NNReal.coe_mk]
    rw [Real.sq_sqrt (by positivity)]
    ring
  have hL := map_mul_Iic _ hσ mu
  rw [← hlaw] at hL
  rw [← hL]
  have hind : ((γ.map ((-s1) * ·)) ∗ (γ.map (s0 * ·))) (Iic mu) =
      ∫⁻ z, (Iic mu).indicator 1 z ∂((γ.map ((-s1) * ·)) ∗ (γ.map (s0 * ·))) := by
    rw [lintegral_indicator_one measurableSet_Iic]
  rw [hind, Measure.lintegral_conv (measurable_one.indicator measurableSet_Iic)]
  have hinner : ∀ x : ℝ, ∫⁻ y, (Iic mu).indicator (1 : ℝ → ℝ≥0∞) (x + y) ∂(γ.map (s0 * ·)) =
      ENNReal.ofReal (1 - gQ ((mu - x) / s0)) := by
    intro x
    have : (fun y => (Iic mu).indicator (1 : ℝ → ℝ≥0∞) (x + y)) = (Iic (mu - x)).indicator 1 := by
      funext y
      simp only [indicator, mem_Iic, le_sub_iff_add_le', Pi.one_apply]
    rw [this, lintegral_indicator_one measurableSet_Iic, map_mul_Iic s0 hs0]
  simp_rw [hinner]
  have hQm := gQ_measurable
  rw [lintegral_map (by fun_prop) (by fun_prop)]
  congr 1
  funext x
  congr 3
  ring

theorem softFrom_integral_M2 (mu s0 s1 : ℝ) (hs0 : 0 < s0) (hs1 : 0 < s1) :
    softFrom (∫ x, softIntegrand gQ 2 mu s0 s1 x) = gQ (mu / Real.sqrt (s0 ^ 2 + s1 ^ 2)) := by
  set f : ℝ → ℝ := fun x => 1 - gQ ((mu + s1 * x) / s0)
  have hf0 : ∀ x, 0 ≤ f x := fun x => sub_nonneg.mpr (gQ_spec.le_one _)
  have hf1 : ∀ x, f x ≤ 1 := fun x => sub_le_self 1 (gQ_spec.nonneg _)
  have hfm : Measurable f := by
    have hQm := gQ_measurable
    fun_prop
  have hfi : Integrable f γ := by
    apply (integrable_const (1 : ℝ)).mono' hfm.aestronglyMeasurable
    filter_upwards with x
    rw [Real.norm_eq_abs, abs_of_nonneg (hf0 x)]
    exact hf1 x
  have h1 := gaussian_diff_cdf_eq_lintegral mu s0 s1 hs0 hs1
  -- the lintegral is a Bochner integral under `γ` …
  rw [← ofReal_integral_eq_lintegral_ofReal hfi (Filter.Eventually.of_forall hf0)] at h1
  have hnn : 0 ≤ 1 - gQ (mu / Real.sqrt (s0 ^ 2 + s1 ^ 2)) := sub_nonneg.mpr (gQ_spec.le_one _)
  have h2 : 1 - gQ (mu / Real.sqrt (s0 ^ 2 + s1 ^ 2)) = ∫ x, f x ∂γ :=
    (ENNReal.ofReal_eq_ofReal_iff hnn (integral_nonneg hf0)).mp h1
  -- … which is a Lebesgue integral against the density …
  rw [integral_gaussianReal_eq_integral_smul (by norm_num : (1 : ℝ≥0) ≠ 0)] at h2
  -- … and density · `f` is the integrand handed to `quad`, over `√(2π)`
  have h3 : (fun x => gaussianPDFReal 0 1 x • f x) =
      fun x => (Real.sqrt (2 * Real.pi))⁻¹ * softIntegrand gQ 2 mu s0 s1 x := by
    funext x
    rw [softIntegrand_real, gaussianPDFReal_def]
    simp only [NNReal.coe_one, mul_one, sub_zero]
    have : -x ^ 2 / 2 = -(1 / 2) * x ^ 2 := by ring
    rw [this]
    ring
  rw [h3, integral_const_mul] at h2
  rw [softFrom_real, div_eq_inv_mul, ← h2, sub_sub_cancel]

end OptiVerif.Ber
