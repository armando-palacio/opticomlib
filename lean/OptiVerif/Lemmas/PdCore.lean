/- `pd` and `pdCore` at ℝ in normal form (`pd_eq`, `pdCore_eq`), and the `include_noise` ladder: how an option decodes, the
   documented table and `specNoise` (namespace `Props.C09`: the vocabulary of `selection_table`), the sums row by row. -/
import OptiVerif.Lemmas.Guard
import OptiVerif.Lemmas.Pd

namespace OptiVerif.Pd

theorem checkNum_type {types : List String} {terr verr : Wire.Err} {rej : List (String × ℚ)} {v : PyVal ℝ}
    (h : v.isInstance types = false) : checkNum types terr rej verr v = .error terr := by
  simp [checkNum, h]

theorem checkNum_num (types : List String) (terr verr : Wire.Err) (rej : List (String × ℚ)) (v : PyVal ℝ) (x : ℝ)
    {Q : Prop} [Decidable Q] (h : v.isInstance types = true) (hv : v.val = some x) (hr : rejects rej x = some (decide Q)) :
    checkNum types terr rej verr v = if Q then .error verr else .ok x := by
  by_cases hQ : Q <;> simp [checkNum, h, hv, hr, hQ]

theorem checkNum_r (r : PyVal ℝ) (v : ℝ) (h : r.isInstance Gen.PdTable.rTypes = true) (hv : r.val = some v) :
    checkNum Gen.PdTable.rTypes Gen.PdTable.rTypeErr Gen.PdTable.rReject Gen.PdTable.rRangeErr r =
      if v ≤ 0 ∨ 1 < v then .error .ValueError else .ok v :=
  checkNum_num _ _ _ _ r v h hv (by simp [Gen.PdTable.rReject, rejects, cmpOp, ofRat_real])

theorem checkNum_r_ok {r : PyVal ℝ} {v : ℝ} (h : r.isInstance Gen.PdTable.rTypes = true) (hv : r.val = some v) (h0 : 0 < v)
    (h1 : v ≤ 1) : checkNum Gen.PdTable.rTypes Gen.PdTable.rTypeErr Gen.PdTable.rReject Gen.PdTable.rRangeErr r = .ok v :=
  (checkNum_r r v h hv).trans (if_neg (not_or.mpr ⟨not_le.mpr h0, not_lt.mpr h1⟩))

theorem checkNum_lt0 {types : List String} {terr verr : Wire.Err} (p : PyVal ℝ) (v : ℝ) (h : p.isInstance types = true)
    (hv : p.val = some v) : checkNum types terr [("lt", 0)] verr p = if v < 0 then .error verr else .ok v :=
  checkNum_num _ _ _ _ p v h hv (by simp [rejects, cmpOp, ofRat_real])

theorem checkNum_lt0_ok {types : List String} {terr verr : Wire.Err} {p : PyVal ℝ} {v : ℝ} (h : p.isInstance types = true)
    (hv : p.val = some v) (h0 : 0 ≤ v) : checkNum types terr [("lt", 0)] verr p = .ok v :=
  (checkNum_lt0 p v h hv).trans (if_neg (not_lt.mpr h0))

theorem checkNum_ok_inv {types : List String} {terr verr : Wire.Err} {rej : List (String × ℚ)} {v : PyVal ℝ} {x : ℝ}
    (h : checkNum types terr rej verr v = .ok x) :
    v.isInstance types = true ∧ v.val = some x ∧ rejects rej x = some false := by
  unfold checkNum at h
  split at h
  · cases h
  split at h
  · cases h
  split at h
  · cases h
  · cases h
  · cases h
    rename_i hi _ _ hv hr
    exact ⟨by simpa using hi, hv, hr⟩

theorem reqs_eq (th sh : Bool) (qT qN : Req ℝ) :
    (Gen.PdTable.blockOrder.filterMap fun b =>
      if b = "thermal" ∧ th = true then some qT else if b = "shot" ∧ sh = true then some qN else none) =
      (if th then [qT] else []) ++ (if sh then [qN] else []) := by
  cases th <;> cases sh <;> simp [Gen.PdTable.blockOrder]

theorem pd_eq {kB e fs iDark Fn : ℝ} {r T Rl : PyVal ℝ} {sel : Option (List Char)} {dT dN : List ℝ} {x : Pd.Field (Cx ℝ)}
    {cr ct cl : Except Wire.Err ℝ}
    (hr : checkNum Gen.PdTable.rTypes Gen.PdTable.rTypeErr Gen.PdTable.rReject Gen.PdTable.rRangeErr r = cr)
    (ht : checkNum Gen.PdTable.tTypes Gen.PdTable.tTypeErr Gen.PdTable.tReject Gen.PdTable.tRangeErr T = ct)
    (hl : checkNum Gen.PdTable.rLoadTypes Gen.PdTable.rLoadTypeErr Gen.PdTable.rLoadReject Gen.PdTable.rLoadRangeErr Rl = cl) :
    pd kB e fs r T Rl sel iDark Fn dT dN (.optical x) =
      match (generalizing := false) cr with
      | .error err => ⟨[], .error err⟩
      | .ok rv =>
      match (generalizing := false) ct with
      | .error err => ⟨[], .error err⟩
      | .ok tv =>
      match (generalizing := false) cl with
      | .error err => ⟨[], .error err⟩
      | .ok rl =>
      match sel with
      | none => ⟨[], .error .TypeError⟩
      | some s => pdBody kB e fs rv tv rl iDark Fn s dT dN x := by
  unfold pd
  rw [hr, ht, hl]
  cases cr with
  | error => rfl
  | ok rv =>
  cases ct with
  | error => rfl
  | ok tv =>
  cases cl with
  | error => rfl
  | ok rl => cases sel <;> rfl

section
variable {kB e fs T Rl iDark Fn : ℝ} {sel : List Char} {dT dN : List ℝ} {n : ℕ} {isig sn nn : List ℝ} {iase : ℝ}

/-- neither guard fails on what the harness produces -/
theorem pdCore_eq {th sh ase : Bool} {names : Option (List String)} (hd : decode (lower sel) = ⟨th, sh, ase, names⟩) :
    pdCore kB e fs T Rl iDark Fn sel dT dN n isig sn nn iase =
      if n ≠ 0 ∧ (th = true → 0 < Rl) then
        ⟨(if th then [⟨0, Real.sqrt (sigma2T kB T fs Fn Rl), n⟩] else []) ++
            (if sh then [⟨0, Real.sqrt (Gen.PdTable.sN e (mean isig) iase iDark fs), n⟩] else []),
          if (th = true → dT.length = n) ∧ (sh = true → dN.length = n) then
            match (generalizing := false) names with
            | none => .error .ValueError
            | some names =>
              match sumTerms n ⟨if ase then some sn else none, if ase then some nn else none,
                  if th then some dT else none, if sh then some dN else none, iDark⟩ names with
              | none => .error .Other
              | some inoise => .ok ⟨isig.map (· * Rl), inoise.map (· * Rl)⟩
          else .error .Other⟩
      else ⟨[], .error .Other⟩ := by
  unfold pdCore
  simp only [hd, reqs_eq, Gen.PdTable.thermalLoc, Gen.PdTable.shotLoc, ofRat_real, Rat.cast_zero, Transc.sqrt_real, Nat.cast_zero]
  -- `g1` denies the model's first two guards, `g2` the third
  by_cases g1 : n ≠ 0 ∧ (th = true → 0 < Rl)
  · have m2 : ¬ (th = true ∧ ¬ 0 < Rl) := fun h => h.2 (g1.2 h.1)
    rw [if_pos g1, if_neg g1.1, if_neg m2]
    by_cases g2 : (th = true → dT.length = n) ∧ (sh = true → dN.length = n)
    · have m3 : ¬ ((th = true ∧ dT.length ≠ n) ∨ (sh = true ∧ dN.length ≠ n)) :=
        fun h => h.elim (fun a => a.2 (g2.1 a.1)) fun a => a.2 (g2.2 a.1)
      rw [if_pos g2, if_neg m3]
      cases names with
      | none => rfl
      | some names => dsimp only; cases sumTerms (R := ℝ) n _ names <;> rfl
    · have m3 : (th = true ∧ dT.length ≠ n) ∨ (sh = true ∧ dN.length ≠ n) :=
        (not_and_or.mp g2).imp Classical.not_imp.mp Classical.not_imp.mp
      rw [if_neg g2, if_pos m3]
  · rw [if_neg g1]
    by_cases m1 : n = 0
    · rw [if_pos m1]
    · have m2 : th = true ∧ ¬ 0 < Rl := Classical.not_imp.mp fun h => g1 ⟨m1, h⟩
      rw [if_neg m1, if_pos m2]

theorem pdCore_sig {p : Pre ℝ} (h : (pdCore kB e fs T Rl iDark Fn sel dT dN n isig sn nn iase).out = .ok p) :
    p.sig = isig.map (· * Rl) := by
  rcases hd : decode (lower sel) with ⟨th, sh, ase, names⟩
  rw [pdCore_eq hd, apply_ite Res.out] at h
  obtain ⟨-, h⟩ := ite_else_error_eq_ok.mp h
  obtain ⟨-, h⟩ := ite_else_error_eq_ok.mp h
  obtain _ | names := names
  · cases h
  dsimp only at h
  generalize sumTerms (R := ℝ) n _ names = o at h
  obtain _ | inoise := o <;> cases h
  rfl

end

end OptiVerif.Pd

namespace OptiVerif.Props.C09
open OptiVerif.Pd

/-- (name, signal–noise beating, noise–noise beating, thermal, shot) -/
def documented : List (String × Bool × Bool × Bool × Bool) :=
  [("ase-only", true, true, false, false), ("thermal-only", false, false, true, false),
   ("shot-only", false, false, false, true), ("ase-thermal", true, true, true, false),
   ("ase-shot", true, true, false, true), ("thermal-shot", false, false, true, true), ("all", true, true, true, true)]

/-- `Perm`, not `=`: `documented` lists two rows in the other order -/
theorem documented_perm :
    (Gen.PdTable.ladder.map fun kv =>
      (kv.1, kv.2.contains "i_s_n", kv.2.contains "i_n_n", kv.2.contains "i_T", kv.2.contains "i_N")).Perm documented := by
  decide +kernel

def pick (n : ℕ) (b : Bool) (l : List ℝ) : List ℝ := if b then l else List.replicate n 0

/-- the noise current in A made of exactly the selected terms plus the dark current -/
def specNoise (n : ℕ) (sn nn th sh : Bool) (SN NN dT dN : List ℝ) (iDark : ℝ) : List ℝ :=
  zipAdd (zipAdd (zipAdd (zipAdd (pick n sn SN) (pick n nn NN)) (pick n th dT)) (pick n sh dN)) (List.replicate n iDark)

theorem length_pick {n : ℕ} (b : Bool) {l : List ℝ} (h : l.length = n) : (pick n b l).length = n := by
  cases b <;> simp [pick, h]

theorem length_specNoise {n : ℕ} (sn nn th sh : Bool) {SN NN dT dN : List ℝ} (iDark : ℝ) (hSN : SN.length = n)
    (hNN : NN.length = n) (hT : dT.length = n) (hN : dN.length = n) :
    (specNoise n sn nn th sh SN NN dT dN iDark).length = n := by
  simp [specNoise, length_zipAdd, length_pick, hSN, hNN, hT, hN]

end OptiVerif.Props.C09

namespace OptiVerif.Pd
open Props.C09

theorem lookup_eq_none (s : List Char) :
    ∀ tbl : List (String × List String), (∀ kv ∈ tbl, s ≠ kv.1.toList) → lookup s tbl = none
  | [], _ => rfl
  | (k, v) :: rest, h => by
    rw [lookup, if_neg (h (k, v) List.mem_cons_self)]
    exact lookup_eq_none s rest fun kv hkv => h kv (List.mem_cons_of_mem _ hkv)

/-- in `devices.PD` a noise block runs on an option exactly when the branch taken sums the block's variables: none is
    summed unbound -/
theorem decode_ladder : ∀ kv ∈ Gen.PdTable.ladder,
    decode kv.1.toList = ⟨kv.2.contains "i_T", kv.2.contains "i_N", kv.2.contains "i_s_n", some kv.2⟩ := by
  decide +kernel

/-- as a `simp` lemma: five rewrite rules -/
theorem Terms.get_eq (n : ℕ) (t : Terms ℝ) :
    t.get n "i_s_n" = t.i_s_n ∧ t.get n "i_n_n" = t.i_n_n ∧ t.get n "i_T" = t.i_T ∧ t.get n "i_N" = t.i_N ∧
      t.get n "i_dark" = some (List.replicate n t.i_dark) := by
  simp [Terms.get]

/-- on the left one flag governs both beating terms: one block (`ase`) binds both variables -/
theorem sumTerms_ladder {n : ℕ} {SN NN dT dN : List ℝ} (iDark : ℝ) (hSN : SN.length = n) (hNN : NN.length = n) :
    ∀ kv ∈ Gen.PdTable.ladder, (kv.2.contains "i_T" = true → dT.length = n) → (kv.2.contains "i_N" = true → dN.length = n) →
      sumTerms n ⟨if kv.2.contains "i_s_n" then some SN else none, if kv.2.contains "i_s_n" then some NN else none,
          if kv.2.contains "i_T" then some dT else none, if kv.2.contains "i_N" then some dN else none, iDark⟩ kv.2 =
        some (specNoise n (kv.2.contains "i_s_n") (kv.2.contains "i_n_n") (kv.2.contains "i_T") (kv.2.contains "i_N")
          SN NN dT dN iDark) := by
  have h0 : (List.replicate n (0 : ℝ)).length = n := List.length_replicate
  intro kv hkv
  simp only [Gen.PdTable.ladder, List.mem_cons, List.not_mem_nil, or_false] at hkv
  -- only the last row sums shot before thermal
  rcases hkv with rfl | rfl | rfl | rfl | rfl | rfl | rfl <;>
    simp only [List.contains_cons, List.contains_nil, String.reduceBEq, Bool.or_false, Bool.or_true, specNoise, pick] <;>
    intro hT hN <;>
    simp only [if_true, if_false, Bool.false_eq_true] <;>
    simp only [sumTerms, List.foldl_cons, List.foldl_nil, Terms.get_eq,
      zipAdd_zeros, length_zipAdd, min_self, h0, hSN, hNN, hT, hN, zipAdd_right_comm _ dN dT]

end OptiVerif.Pd
