/-
`Transc ℝ`, the algebra of `Cx ℝ`, and the bridge `Cx ℝ → ℂ`: everything the proofs about the generic numeric
models need to know about the carrier, in one place.

`Cx ℝ` is deliberately given no `CommRing` instance: an instance would compete with `Cx.instMul` & co. in every
statement about the models.  Identities are proved by `Cx.ext` followed by `ring` on the components, or, where sums
are involved, pushed to `ℂ` with the `toC_*` lemmas (`toC_injective`).
-/
import OptiVerif.Model.Num
import OptiVerif.Model.Fourier
import Mathlib.Analysis.SpecialFunctions.Trigonometric.Basic
import Mathlib.Analysis.SpecialFunctions.Sqrt
import Mathlib.Analysis.SpecialFunctions.Log.Basic
import Mathlib.Analysis.SpecialFunctions.Exp

namespace OptiVerif

noncomputable instance : Transc ℝ where
  sqrt := Real.sqrt
  exp := Real.exp
  log := Real.log
  cos := Real.cos
  sin := Real.sin
  pi := Real.pi

@[simp] theorem Transc.sqrt_real (x : ℝ) : Transc.sqrt x = Real.sqrt x := rfl
@[simp] theorem Transc.exp_real (x : ℝ) : Transc.exp x = Real.exp x := rfl
@[simp] theorem Transc.log_real (x : ℝ) : Transc.log x = Real.log x := rfl
@[simp] theorem Transc.cos_real (x : ℝ) : Transc.cos x = Real.cos x := rfl
@[simp] theorem Transc.sin_real (x : ℝ) : Transc.sin x = Real.sin x := rfl
@[simp] theorem Transc.pi_real : (Transc.pi : ℝ) = Real.pi := rfl

namespace Cx

@[ext] theorem ext {a b : Cx ℝ} (hr : a.re = b.re) (hi : a.im = b.im) : a = b := by
  cases a; cases b; simp_all

theorem mul_assoc' (a b c : Cx ℝ) : a * b * c = a * (b * c) := by ext <;> simp <;> ring
theorem mul_comm' (a b : Cx ℝ) : a * b = b * a := by
  ext <;> simp <;> ring
theorem add_mul' (a b c : Cx ℝ) : (a + b) * c = a * c + b * c := by ext <;> simp <;> ring
theorem mul_neg' (a b : Cx ℝ) : a * (-b) = -(a * b) := by ext <;> simp <;> ring
theorem mul_one' (a : Cx ℝ) : a * (⟨1, 0⟩ : Cx ℝ) = a := by ext <;> simp
theorem one_mul' (a : Cx ℝ) : (⟨1, 0⟩ : Cx ℝ) * a = a := by ext <;> simp
theorem zero_mul' (a : Cx ℝ) : (⟨0, 0⟩ : Cx ℝ) * a = ⟨0, 0⟩ := by ext <;> simp

theorem conj_conj (a : Cx ℝ) : conj (conj a) = a := by ext <;> simp [conj]
theorem conj_mul (a b : Cx ℝ) : conj (a * b) = conj a * conj b := by ext <;> simp [conj] <;> ring
theorem conj_mul_self (a : Cx ℝ) : conj a * a = ⟨a.normSq, 0⟩ := by ext <;> simp [conj, normSq] <;> ring

theorem cis_zero : (cis (0 : ℝ) : Cx ℝ) = ⟨1, 0⟩ := by simp [cis]

theorem cis_add (α β : ℝ) : (cis α : Cx ℝ) * cis β = cis (α + β) := by
  ext <;> simp [cis, Real.cos_add, Real.sin_add] <;> ring

theorem cis_add_pi (α : ℝ) : (cis (α + Real.pi) : Cx ℝ) = -cis α := by
  apply ext <;> simp [cis, Real.cos_add_pi, Real.sin_add_pi]

theorem cis_neg (θ : ℝ) : (cis (-θ) : Cx ℝ) = conj (cis θ) := by simp [cis, conj]

theorem exp_zero_re (θ : ℝ) : Cx.exp ⟨0, θ⟩ = cis θ := by
  ext <;> simp [Cx.exp, Cx.smul]

theorem exp_mul (z w : Cx ℝ) : Cx.exp z * Cx.exp w = Cx.exp (z + w) := by
  ext <;> simp [Cx.exp, smul, cis, Real.exp_add, Real.cos_add, Real.sin_add] <;> ring

theorem normSq_nonneg (a : Cx ℝ) : 0 ≤ a.normSq := add_nonneg (mul_self_nonneg _) (mul_self_nonneg _)
theorem normSq_zero : (⟨0, 0⟩ : Cx ℝ).normSq = 0 := by simp [normSq]
theorem normSq_neg (a : Cx ℝ) : (-a).normSq = a.normSq := by simp [normSq]
theorem normSq_conj (a : Cx ℝ) : (conj a).normSq = a.normSq := by simp [normSq, conj]
theorem normSq_mul (a b : Cx ℝ) : (a * b).normSq = a.normSq * b.normSq := by
  simp [normSq]; ring
theorem normSq_smul (r : ℝ) (a : Cx ℝ) : (smul r a).normSq = r * r * a.normSq := by
  simp [normSq, smul]; ring
theorem normSq_ofReal (r : ℝ) : (ofReal r : Cx ℝ).normSq = r * r := by simp [normSq, ofReal]
theorem normSq_cis (θ : ℝ) : (cis θ : Cx ℝ).normSq = 1 := by
  simp only [normSq, cis, Transc.cos_real, Transc.sin_real, ← sq]
  exact Real.cos_sq_add_sin_sq θ
theorem normSq_mul_cis (a : Cx ℝ) (θ : ℝ) : (a * cis θ).normSq = a.normSq := by
  rw [normSq_mul, normSq_cis, mul_one]
theorem normSq_exp (z : Cx ℝ) : (Cx.exp z).normSq = Real.exp (2 * z.re) := by
  rw [Cx.exp, normSq_smul, normSq_cis, mul_one, two_mul, Real.exp_add]; rfl

def toC (z : Cx ℝ) : ℂ := ⟨z.re, z.im⟩

@[simp] theorem toC_re (z : Cx ℝ) : z.toC.re = z.re := rfl
@[simp] theorem toC_im (z : Cx ℝ) : z.toC.im = z.im := rfl

theorem toC_injective : Function.Injective toC := fun _ _ h =>
  ext (congrArg Complex.re h) (congrArg Complex.im h)

theorem toC_add (a b : Cx ℝ) : (a + b).toC = a.toC + b.toC := by apply Complex.ext <;> simp
theorem toC_sub (a b : Cx ℝ) : (a - b).toC = a.toC - b.toC := by apply Complex.ext <;> simp
theorem toC_neg (a : Cx ℝ) : (-a).toC = -a.toC := by apply Complex.ext <;> simp
theorem toC_mul (a b : Cx ℝ) : (a * b).toC = a.toC * b.toC := by apply Complex.ext <;> simp
theorem toC_conj (a : Cx ℝ) : (conj a).toC = (starRingEnd ℂ) a.toC := by apply Complex.ext <;> simp [conj]
theorem toC_ofReal (r : ℝ) : (ofReal r : Cx ℝ).toC = (r : ℂ) := by
  apply Complex.ext <;> simp [ofReal]
theorem toC_smul' (r : ℝ) (a : Cx ℝ) : (smul r a).toC = (r : ℂ) * a.toC := by
  apply Complex.ext <;> simp [smul]
theorem toC_normSq (a : Cx ℝ) : a.normSq = Complex.normSq a.toC := by simp [normSq, Complex.normSq_apply]
theorem toC_cis (θ : ℝ) : (cis θ).toC = Complex.exp (θ * Complex.I) := by
  apply Complex.ext <;> simp [cis, Complex.exp_ofReal_mul_I_re, Complex.exp_ofReal_mul_I_im]

end Cx

/-- the zero sample is transcribed three times: `Fourier.czero`, `Modulators.czero`, `DacGauss.cxZero` are one term up to
    `lit` -/
theorem Fourier.czero_eq : (Fourier.czero : Cx ℝ) = ⟨0, 0⟩ := by simp [Fourier.czero]

theorem Fourier.toC_czero : (Fourier.czero : Cx ℝ).toC = 0 := by
  rw [Fourier.czero_eq]; rfl

theorem Fourier.normSq_czero : (Fourier.czero : Cx ℝ).normSq = 0 := by
  rw [Fourier.czero_eq, Cx.normSq_zero]

theorem Fourier.ang_real (n m : ℕ) : (Fourier.ang n m : ℝ) = 2 * Real.pi * m / n := by
  simp only [Fourier.ang, Nat.cast_ofNat, Transc.pi_real]

end OptiVerif
