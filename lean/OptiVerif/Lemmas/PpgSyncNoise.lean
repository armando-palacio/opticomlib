/-
Helper lemmas for C20 (SYNC with noise).  The correlation is additive in the record (`corrAt_add`), so the alignment of
`clean + e` is that of `clean` as long as the noise correlations stay below the clean margins (`lagW_margin`).
-/
import OptiVerif.Lemmas.PpgSync
import OptiVerif.Lemmas.PpgKron
import Mathlib.Algebra.BigOperators.Group.List.Basic
import Mathlib.Algebra.Order.Ring.Abs

namespace OptiVerif.Sync

variable {R : Type} [CommRing R] [LinearOrder R] [IsStrictOrderedRing R]

/-- sample-wise sum of two records (`rx = clean + e`) -/
def addL (u v : List R) : List R := List.zipWith (· + ·) u v

/-- Σ |wⱼ| -/
def sumAbs (w : List R) : R := total (w.map (fun x => |x|))

theorem addL_length (u v : List R) (h : u.length = v.length) : (addL u v).length = u.length := by
  rw [addL, List.length_zipWith, h, Nat.min_self]

theorem dot_add_left : ∀ (u v w : List R), u.length = v.length → dot (addL u v) w = dot u w + dot v w
  | [], [], w, _ => by rw [addL, List.zipWith_nil_left, dot_nil_left, add_zero]
  | [], _ :: _, _, h => nomatch h
  | _ :: _, [], _, h => nomatch h
  | a :: u, b :: v, [], _ => by rw [dot_nil_right, dot_nil_right, dot_nil_right, add_zero]
  | a :: u, b :: v, c :: w, h => by
    have ih := dot_add_left u v w (Nat.succ.inj h)
    simp only [addL, List.zipWith_cons_cons, dot_cons] at ih ⊢
    rw [ih, add_mul, add_add_add_comm]

theorem corrAt_add (c e w : List R) (h : c.length = e.length) (i : Nat) :
    corrAt (addL c e) w i = corrAt c w i + corrAt e w i := by
  unfold corrAt addL
  rw [List.take_zipWith, List.drop_zipWith]
  exact dot_add_left _ _ w (by simp only [List.length_drop, List.length_take, h])

theorem corr_add (c e w : List R) (h : c.length = e.length) :
    corr (addL c e) w = addL (corr c w) (corr e w) := by
  have h1 : ((addL c e).take (2 * w.length - 1)).length = (c.take (2 * w.length - 1)).length := by
    simp only [List.length_take, addL_length c e h]
  have h2 : (e.take (2 * w.length - 1)).length = (c.take (2 * w.length - 1)).length := by
    simp only [List.length_take, h]
  rw [corr_eq_map, corr_eq_map c, corr_eq_map e, h1, h2]
  unfold addL
  rw [List.zipWith_map, List.zipWith_self]
  exact List.map_congr_left fun i _ => corrAt_add c e w h i

theorem lagW_margin (c e w : List R) (h : c.length = e.length) (d : Nat) (hl : w.length ≤ c.length)
    (hw : 0 < w.length) (hd : d < (corr c w).length)
    (hm : ∀ m, m < (corr c w).length → m ≠ d → corrAt e w m - corrAt e w d < corrAt c w d - corrAt c w m) :
    lagW (addL c e) w = .ok d := by
  have hlen : (corr (addL c e) w).length = (corr c w).length := by
    simp only [corr_eq_map, List.length_map, List.length_range, List.length_take, addL_length c e h]
  refine lagW_of_peak (by rw [addL_length c e h]; exact hl) hw (by omega) (corrAt_add c e w h d) fun i hi hne => ?_
  rw [corrAt_add c e w h, add_comm (corrAt c w i)]
  exact sub_lt_sub_iff.mp (hm i (by omega) hne)

theorem lagW_delayed_add (w tail e : List R) (d : Nat) (hd : d < w.length)
    (he : e.length = (delayed w d tail).length)
    (hm : ∀ m, m < w.length → m ≠ d →
      corrAt e w m - corrAt e w d < dot w w - dot (w.rotate ((w.length - d + m) % w.length)) w) :
    lagW (addL (delayed w d tail) e) w = .ok d := by
  have hl := length_delayed w tail d
  have hlen := corr_length _ w (by omega) hl
  refine lagW_margin _ e w he.symm d (by omega) (by omega) (by omega) fun m hml hne => ?_
  rw [corrAt_delayed_peak w tail d hd, corrAt_delayed w tail d m (by omega)]
  exact hm m (by omega) hne

theorem lagW_delayed_of_abs (w tail e : List R) (d : Nat) (hd : d < w.length)
    (he : e.length = (delayed w d tail).length)
    (h : ∀ m k, m < w.length → 0 < k → k < w.length →
      |corrAt e w m| + |corrAt e w d| < dot w w - dot (w.rotate k) w) :
    lagW (addL (delayed w d tail) e) w = .ok d :=
  lagW_delayed_add w tail e d hd he fun m hm hne => by
    obtain ⟨hpos, hlt⟩ := delay_add_mod_pos hd hm hne
    exact lt_of_le_of_lt ((le_abs_self _).trans (abs_sub _ _)) (h m _ hm hpos hlt)

theorem sumAbs_cons (x : R) (w : List R) : sumAbs (x :: w) = |x| + sumAbs w := rfl

theorem sumAbs_nonneg : ∀ (w : List R), 0 ≤ sumAbs w
  | [] => le_refl _
  | x :: w => add_nonneg (abs_nonneg x) (sumAbs_nonneg w)

theorem dot_abs_le (ε : R) (hε : 0 ≤ ε) : ∀ (u w : List R), (∀ x ∈ u, |x| ≤ ε) → |dot u w| ≤ ε * sumAbs w
  | [], w, _ => by
    rw [dot_nil_left, abs_zero]
    exact mul_nonneg hε (sumAbs_nonneg w)
  | _ :: _, [], _ => by
    rw [dot_nil_right, abs_zero]
    exact mul_nonneg hε (sumAbs_nonneg _)
  | a :: u, b :: w, h => by
    have ih := dot_abs_le ε hε u w fun x hx => h x (List.mem_cons_of_mem _ hx)
    have ha := mul_le_mul_of_nonneg_right (h a List.mem_cons_self) (abs_nonneg b)
    rw [dot_cons, sumAbs_cons, mul_add]
    exact (abs_add_le _ _).trans (add_le_add (by rwa [abs_mul]) ih)

theorem corrAt_abs_le (e w : List R) (ε : R) (hε : 0 ≤ ε) (he : ∀ x ∈ e, |x| ≤ ε) (i : Nat) :
    |corrAt e w i| ≤ ε * sumAbs w :=
  dot_abs_le ε hε _ w fun x hx => he x (List.mem_of_mem_take (List.mem_of_mem_drop hx))

theorem sumAbs_01 : ∀ (w : List R), (∀ x ∈ w, x = 0 ∨ x = 1) → sumAbs w = dot w w ∧ dot w w = total w
  | [], _ => by simp [sumAbs, total]
  | x :: w, h => by
    obtain ⟨i1, i2⟩ := sumAbs_01 w (fun y hy => h y (List.mem_cons_of_mem _ hy))
    rw [sumAbs_cons, dot_cons, total, i1, i2]
    rcases h x List.mem_cons_self with rfl | rfl <;> simp

theorem total_eq_sum : ∀ l : List R, total l = l.sum
  | [] => rfl
  | x :: l => by rw [total, total_eq_sum l, List.sum_cons]

theorem total_kron (tx : List R) (sps : Nat) : total (kron tx sps) = (sps : R) * total tx := by
  induction tx with
  | nil => simp [kron, total]
  | cons b tx ih =>
    rw [kron_cons, total_eq_sum, List.sum_append, List.sum_replicate, nsmul_eq_mul, ← total_eq_sum, ih, total, mul_add]

end OptiVerif.Sync
