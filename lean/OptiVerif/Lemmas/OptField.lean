/-
The optical field of the device models (`Modulators.Rows`, `Modulators.Field`): a device acts by one row transformer alike on
signal and noise, so a property of a device is a fact about one sample, lifted through `zipWith`, the rows, and the field.
Shared by the modulators, the amplifier and the link.
-/
import OptiVerif.Model.Modulators
import OptiVerif.Lemmas.ConvReal

namespace List
variable {α α' β β' γ γ' δ : Type}

/-- both results are cut to the same length, so no length is asked for -/
theorem forall₂_zipWith {R : α → α' → Prop} {Q : β → β' → Prop} {P : γ → γ' → Prop} {f : α → β → γ} {f' : α' → β' → γ'}
    (h : ∀ a a' b b', R a a' → Q b b' → P (f a b) (f' a' b')) {as : List α} {as' : List α'} {bs : List β}
    {bs' : List β'} (hr : Forall₂ R as as') (hq : Forall₂ Q bs bs') :
    Forall₂ P (zipWith f as bs) (zipWith f' as' bs') := by
  induction hr generalizing bs bs' with
  | nil => exact .nil
  | cons r _ ih =>
    cases hq with
    | nil => exact .nil
    | cons q qs => exact .cons (h _ _ _ _ r q) (ih qs)

theorem forall₂_zipWith_of {R : α → δ → Prop} {Q : β → δ → Prop} {P : γ → δ → Prop} {f : α → β → γ}
    (h : ∀ a b d, R a d → Q b d → P (f a b) d) {as : List α} {bs : List β} {ds : List δ}
    (hr : Forall₂ R as ds) (hq : Forall₂ Q bs ds) : Forall₂ P (zipWith f as bs) ds := by
  induction hr generalizing bs with
  | nil => cases hq; exact .nil
  | cons r _ ih =>
    cases hq with
    | cons q qs => exact .cons (h _ _ _ r q) (ih qs)

theorem forall₂_of_forall_pairs {P : α → β → Prop} {as : List α} {bs : List β} (h : as.length = bs.length)
    (hp : ∀ a ∈ as, ∀ b ∈ bs, P a b) : Forall₂ P as bs :=
  forall₂_iff_zip.2 ⟨h, fun hab => hp _ (of_mem_zip hab).1 _ (of_mem_zip hab).2⟩

theorem forall_mem_of_forall₂_left {p : α → Prop} {as : List α} {bs : List β} (h : Forall₂ (fun a _ => p a) as bs) :
    ∀ a ∈ as, p a := by
  induction h with
  | nil => simp
  | cons h _ ih => exact forall_mem_cons.2 ⟨h, ih⟩

theorem zipWith_zipWith_distrib {f : α → β → α} {g : α → α → α} (h : ∀ a b c, f (g a b) c = g (f a c) (f b c))
    (as bs : List α) (cs : List β) :
    zipWith f (zipWith g as bs) cs = zipWith g (zipWith f as cs) (zipWith f bs cs) := by
  induction as generalizing bs cs with
  | nil => simp
  | cons a as ih =>
    cases bs with
    | nil => simp
    | cons b bs =>
      cases cs with
      | nil => simp
      | cons c cs => simp only [zipWith_cons_cons, h, ih]

end List

namespace OptiVerif.Modulators
open OptiVerif.Gen.OptDev (lit idb idbm)

@[simp] theorem lit_real (n : ℕ) : (lit n : ℝ) = (n : ℝ) := rfl

/-! `utils.idb`/`idbm` as `Gen/OptDev.lean` translates them are `Conv.idb`, `Conv.idbm` by unfolding. -/

theorem idb_real (x : ℝ) : idb x = (10 : ℝ) ^ (x / 10) := Conv.idb_eq x

theorem idbm_real (x : ℝ) : idbm x = (10 : ℝ) ^ (x / 10 - 3) := Conv.pow10_real _

theorem idb_pos (x : ℝ) : 0 < (idb x : ℝ) := Conv.idb_pos x
theorem idbm_pos (x : ℝ) : 0 < (idbm x : ℝ) := by
  rw [idbm_real]; exact Real.rpow_pos_of_pos (by norm_num) _
theorem idb_le_one {x : ℝ} (hx : x ≤ 0) : (idb x : ℝ) ≤ 1 := Conv.idb_le_one hx

theorem sqrt_idb_mul_self (x : ℝ) : Real.sqrt (idb x) * Real.sqrt (idb x) = (10 : ℝ) ^ (x / 10) := by
  rw [Real.mul_self_sqrt (idb_pos x).le, idb_real]

theorem czero_real : (czero : Cx ℝ) = ⟨0, 0⟩ := Fourier.czero_eq

section rel
variable {α β : Type}

/-- sample-by-sample relation between two values of the same shape (same number of rows, same lengths) -/
def RowsRel (P : α → β → Prop) : Rows α → Rows β → Prop
  | .one a, .one b => List.Forall₂ P a b
  | .two a a', .two b b' => List.Forall₂ P a b ∧ List.Forall₂ P a' b'
  | _, _ => False

/-- the same for signal and noise parts (a noise part on one side only does not relate) -/
def FieldRel (P : α → β → Prop) (o : Field α) (i : Field β) : Prop :=
  RowsRel P o.sig i.sig ∧
    match o.noise, i.noise with
    | some a, some b => RowsRel P a b
    | none, none => True
    | _, _ => False

/-- every row of the value satisfies `p` at every sample -/
def Rows.All (p : α → Prop) : Rows α → Prop
  | .one a => ∀ z ∈ a, p z
  | .two a b => (∀ z ∈ a, p z) ∧ ∀ z ∈ b, p z

/-- what the constructor of `optical_signal` guarantees: rows of equal length, noise of the shape of the signal -/
def Field.WF (x : Field α) : Prop :=
  x.sig.Shaped x.sig.len ∧ ∀ r, x.noise = some r → RowsRel (fun _ _ => True) r x.sig

/-- `.signal` and `.noise` alike -/
abbrev Field.map (f : Rows α → Rows β) (x : Field α) : Field β := ⟨f x.sig, x.noise.map f⟩

/-- every row of signal and noise has `n` samples -/
def Field.Shaped (n : ℕ) (x : Field α) : Prop := x.sig.Shaped n ∧ ∀ r, x.noise = some r → r.Shaped n

theorem RowsRel.imp {P Q : α → β → Prop} (h : ∀ a b, P a b → Q a b) {r : Rows α} {s : Rows β}
    (hr : RowsRel P r s) : RowsRel Q r s := by
  cases r <;> cases s <;> simp only [RowsRel] at *
  · exact hr.imp h
  · exact ⟨hr.1.imp h, hr.2.imp h⟩

theorem RowsRel.refl {P : α → α → Prop} (h : ∀ a, P a a) (r : Rows α) : RowsRel P r r := by
  cases r
  · exact List.forall₂_same.2 fun a _ => h a
  · exact ⟨List.forall₂_same.2 fun a _ => h a, List.forall₂_same.2 fun a _ => h a⟩

theorem RowsRel.shaped_iff {P : α → β → Prop} {r : Rows α} {s : Rows β} (h : RowsRel P r s) (n : ℕ) :
    r.Shaped n ↔ s.Shaped n := by
  cases r <;> cases s <;> simp only [RowsRel, Rows.Shaped] at *
  · rw [h.length_eq]
  · rw [h.1.length_eq, h.2.length_eq]

theorem Rows.len_of_shaped {r : Rows α} {n : ℕ} (h : r.Shaped n) : r.len = n := by
  cases r <;> simp only [Rows.Shaped] at * <;> first | exact h | exact h.1

theorem Rows.mem_toList_length {r : Rows α} {n : ℕ} (h : r.Shaped n) : ∀ row ∈ r.toList, row.length = n := by
  cases r <;> simp only [Rows.toList, List.mem_cons, List.not_mem_nil, or_false] at *
  · rintro row rfl; exact h
  · rintro row (rfl | rfl); exact h.1; exact h.2

/-- mismatched layouts return the first argument, so no agreement of layouts is asked for -/
theorem shaped_add [Add α] {s nz : Rows α} {n : ℕ} (hs : s.Shaped n) (hz : nz.Shaped n) : (s.add nz).Shaped n := by
  cases s <;> cases nz <;> simp only [Rows.add, Rows.Shaped] at * <;> simp [*]

theorem Field.WF.shaped {x : Field α} (hx : x.WF) : x.Shaped x.sig.len :=
  ⟨hx.1, fun r hr => ((hx.2 r hr).shaped_iff _).2 hx.1⟩

theorem Field.map_map {γ : Type} (f : Rows α → Rows β) (g : Rows β → Rows γ) (x : Field α) :
    (x.map f).map g = x.map (g ∘ f) := congrArg (Field.mk _) (Option.map_map ..)

theorem Field.Shaped.map {x : Field α} {n m : ℕ} (hx : x.Shaped n) {f : Rows α → Rows β}
    (h : ∀ r, r.Shaped n → (f r).Shaped m) : (x.map f).Shaped m :=
  ⟨h _ hx.1, fun _ hr => by obtain ⟨nz, hn, rfl⟩ := Option.map_eq_some_iff.1 hr; exact h nz (hx.2 nz hn)⟩

theorem Field.Shaped.total [Add α] {x : Field α} {n : ℕ} (hx : x.Shaped n) : x.total.Shaped n := by
  unfold Field.total
  split
  · exact hx.1
  · exact shaped_add hx.1 (hx.2 _ ‹_›)

theorem Field.total_map [Add α] [Add β] (f : Rows α → Rows β) (hf : ∀ s nz, f (s.add nz) = (f s).add (f nz))
    (x : Field α) : (x.map f).total = f x.total := by
  rcases x with ⟨s, _ | nz⟩
  · rfl
  · exact (hf s nz).symm

theorem FieldRel.imp {P Q : α → β → Prop} (h : ∀ a b, P a b → Q a b) {o : Field α} {i : Field β}
    (hr : FieldRel P o i) : FieldRel Q o i := by
  refine ⟨hr.1.imp h, ?_⟩
  have h2 := hr.2
  revert h2
  cases o.noise <;> cases i.noise <;> simp only [imp_self]
  exact RowsRel.imp h

theorem fieldRel_of_rows {γ : Type} {P : β → γ → Prop} {x : Field α} {n : ℕ} (hx : x.Shaped n) (f : Rows α → Rows β)
    (g : Rows α → Rows γ) (h : ∀ r : Rows α, r.Shaped n → RowsRel P (f r) (g r)) :
    FieldRel P (x.map f) (x.map g) := by
  refine ⟨h _ hx.1, ?_⟩
  rcases x with ⟨s, _ | nz⟩
  · trivial
  · exact h nz (hx.2 nz rfl)

theorem fieldRel_of_rows_self {P : β → α → Prop} {x : Field α} {n : ℕ} (hx : x.Shaped n) (f : Rows α → Rows β)
    (h : ∀ r : Rows α, r.Shaped n → RowsRel P (f r) r) : FieldRel P (x.map f) x := by
  simpa [Field.map] using fieldRel_of_rows hx f id h

theorem FieldRel.map {α' β' : Type} {R : α → α' → Prop} {P : β → β' → Prop} {f : Rows α → Rows β} {g : Rows α' → Rows β'}
    (h : ∀ r1 r2, RowsRel R r1 r2 → RowsRel P (f r1) (g r2)) {x1 : Field α} {x2 : Field α'} (hx : FieldRel R x1 x2) :
    FieldRel P (x1.map f) (x2.map g) := by
  refine ⟨h _ _ hx.1, ?_⟩
  have h2 := hx.2
  revert h2
  rcases x1 with ⟨_, _ | n1⟩ <;> rcases x2 with ⟨_, _ | n2⟩ <;> simp only [Option.map, imp_self]
  exact h _ _

end rel

end OptiVerif.Modulators
