/-
`np.argmax` as a scan keeping the first maximum, specified on `Sync.argmaxFrom` (C20); C12's `Ppm.argmaxAux` is the same
scan without the value (`Lemmas/PpmDecision.lean`).  Imports no model with a translated table.
-/
import Mathlib.Order.Basic
import OptiVerif.Model.PpgSync

namespace OptiVerif.Sync

variable {R : Type} [LinearOrder R]

/-- invariant: `pre` is what has been seen, `best = pre[bi]` its first maximum -/
theorem argmaxFrom_spec : ∀ (xs pre : List R) (best : R) (bi : Nat), pre[bi]? = some best → (∀ x ∈ pre, x ≤ best) →
    (∀ j x, j < bi → pre[j]? = some x → x < best) →
    ((pre ++ xs)[(argmaxFrom xs best bi pre.length).1]? = some (argmaxFrom xs best bi pre.length).2 ∧
      (∀ x ∈ pre ++ xs, x ≤ (argmaxFrom xs best bi pre.length).2) ∧
      ∀ j x, j < (argmaxFrom xs best bi pre.length).1 → (pre ++ xs)[j]? = some x →
        x < (argmaxFrom xs best bi pre.length).2)
  | [], pre, best, bi, hb, hle, hf => by
    rw [List.append_nil]
    exact ⟨hb, hle, hf⟩
  | x :: xs, pre, best, bi, hb, hle, hf => by
    have hl : (pre ++ [x]).length = pre.length + 1 := List.length_append
    have hbi := (List.getElem?_eq_some_iff.mp hb).1
    rw [argmaxFrom, List.append_cons, ← hl]
    split_ifs with hlt
    · refine argmaxFrom_spec xs (pre ++ [x]) x pre.length (List.getElem?_concat_length ..) (fun y hy => ?_)
        fun j y hj hy => ?_
      · rcases List.mem_append.mp hy with hy | hy
        · exact le_of_lt (lt_of_le_of_lt (hle y hy) hlt)
        · exact le_of_eq (List.mem_singleton.mp hy)
      · rw [List.getElem?_append_left hj] at hy
        exact lt_of_le_of_lt (hle y (List.mem_of_getElem? hy)) hlt
    · refine argmaxFrom_spec xs (pre ++ [x]) best bi ?_ (fun y hy => ?_) fun j y hj hy => ?_
      · rw [List.getElem?_append_left hbi, hb]
      · rcases List.mem_append.mp hy with hy | hy
        · exact hle y hy
        · exact List.mem_singleton.mp hy ▸ not_lt.mp hlt
      · rw [List.getElem?_append_left (Nat.lt_trans hj hbi)] at hy
        exact hf j y hj hy

theorem argmax_spec (c : List R) (k : Nat) (v : R) (h : argmax c = some (k, v)) :
    c[k]? = some v ∧ (∀ x ∈ c, x ≤ v) ∧ ∀ j x, j < k → c[j]? = some x → x < v := by
  cases c with
  | nil => simp [argmax] at h
  | cons x xs =>
    have := argmaxFrom_spec xs [x] x 0 rfl (fun y hy => le_of_eq (List.mem_singleton.mp hy))
      (fun j y hj => absurd hj (Nat.not_lt_zero j))
    simp only [argmax, Option.some.injEq] at h
    rwa [show ([x] : List R).length = 1 from rfl, h] at this

theorem argmax_unique (c : List R) (d : Nat) (hd : d < c.length)
    (h : ∀ i (hi : i < c.length), i ≠ d → c[i] < c[d]) : argmax c = some (d, c[d]) := by
  cases hc : argmax c with
  | none => cases c with
    | nil => simp at hd
    | cons x xs => simp [argmax] at hc
  | some p =>
    obtain ⟨k, v⟩ := p
    obtain ⟨e, hall, _⟩ := argmax_spec c k v hc
    obtain ⟨hk, rfl⟩ := List.getElem?_eq_some_iff.mp e
    by_cases hkd : k = d
    · subst hkd; rfl
    · exact absurd (hall _ (List.getElem_mem hd)) (not_le.mpr (h k hk hkd))

end OptiVerif.Sync
