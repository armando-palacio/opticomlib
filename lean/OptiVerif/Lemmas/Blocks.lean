/-
Concatenations of blocks of equal length.  `np.kron(x, ones(sps))`, `np.repeat`, `np.tile` of one slot per bit all build a
waveform as `l.flatMap g` with every `g a` of length `n`; sample `j·n + i` is then sample `i` of block `j`.  Core Lean only.
-/
namespace OptiVerif

/-- position `r` of slot `q` lies inside `n` slots -/
theorem mul_add_lt_mul {q n r sps : Nat} (hq : q < n) (hr : r < sps) : q * sps + r < n * sps :=
  calc q * sps + r < (q + 1) * sps := by rw [Nat.succ_mul]; omega
    _ ≤ n * sps := Nat.mul_le_mul_right _ hq

/-- sample `i` of block `j` in a concatenation of blocks of equal length `n` -/
theorem getElem?_flatMap_block {α β : Type} (g : α → List β) (n : Nat) (hg : ∀ a, (g a).length = n)
    (l : List α) (j i : Nat) (hi : i < n) :
    (l.flatMap g)[j * n + i]? = l[j]?.bind (fun a => (g a)[i]?) := by
  induction l generalizing j with
  | nil => rfl
  | cons a l ih =>
    rw [List.flatMap_cons]
    cases j with
    | zero => rw [Nat.zero_mul, Nat.zero_add, List.getElem?_append_left (by rw [hg]; exact hi)]; rfl
    | succ j =>
      rw [Nat.succ_mul, Nat.add_right_comm, List.getElem?_append_right (by rw [hg]; omega), hg, Nat.add_sub_cancel, ih]
      rfl

theorem length_flatMap_block {α β : Type} (g : α → List β) (n : Nat) (l : List α) (hg : ∀ a ∈ l, (g a).length = n) :
    (l.flatMap g).length = l.length * n := by
  induction l with
  | nil => simp
  | cons a l ih =>
    rw [List.flatMap_cons, List.length_append, ih fun b hb => hg b (List.mem_cons_of_mem _ hb),
      hg a List.mem_cons_self, List.length_cons, Nat.succ_mul, Nat.add_comm]

end OptiVerif
