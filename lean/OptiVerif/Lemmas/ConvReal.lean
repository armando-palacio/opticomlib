/-
`Model/Conv.lean` at `ℝ`: the dB scale through `Real.logb` and `Real.rpow`, `gaus`, `rcos`.  The device models transcribe
`idb`, `10**x` and `rcos` again (OptDev, Pd, Ber, Fbg); their lemmas are corollaries of these.
-/
import OptiVerif.Lemmas.Guard
import OptiVerif.Model.Conv
import OptiVerif.Lemmas.NumReal
import OptiVerif.Lemmas.IteOrder
import Mathlib.Analysis.SpecialFunctions.Pow.Real
import Mathlib.Analysis.SpecialFunctions.Log.Base

namespace OptiVerif.Conv
open Real

@[simp] theorem lit_real (n : Nat) : (lit n : ℝ) = (n : ℝ) := rfl

theorem log10_real (x : ℝ) : log10 x = Real.log x / Real.log 10 := by simp [log10]

theorem pow10_real (y : ℝ) : pow10 y = (10 : ℝ) ^ y := by
  simp only [pow10, Transc.exp_real, Transc.log_real, Nat.cast_ofNat]
  rw [Real.rpow_def_of_pos (by norm_num : (0:ℝ) < 10), mul_comm]

theorem db_eq (x : ℝ) : db x = 10 * Real.logb 10 x := by
  rw [db, log10_real, lit_real, Nat.cast_ofNat, Real.logb]

theorem idb_eq (y : ℝ) : idb y = (10 : ℝ) ^ (y / 10) := by
  unfold idb; rw [pow10_real]; simp

theorem idb_db (x : ℝ) (hx : 0 < x) : idb (db x) = x := by
  rw [idb_eq, db_eq, mul_div_cancel_left₀ _ (by norm_num), Real.rpow_logb (by norm_num) (by norm_num) hx]

theorem db_idb (y : ℝ) : db (idb y) = y := by
  rw [idb_eq, db_eq, Real.logb_rpow (by norm_num) (by norm_num), mul_div_cancel₀ _ (by norm_num)]

theorem db_mul (x y : ℝ) (hx : 0 < x) (hy : 0 < y) : db (x * y) = db x + db y := by
  rw [db_eq, db_eq, db_eq, Real.logb_mul hx.ne' hy.ne', mul_add]

theorem idb_pos (y : ℝ) : 0 < idb y := by
  rw [idb_eq]; positivity

theorem one_le_idb {y : ℝ} (hy : 0 ≤ y) : 1 ≤ idb y := by
  rw [idb_eq]
  exact Real.one_le_rpow (by norm_num) (by positivity)

theorem idb_le_one {y : ℝ} (hy : y ≤ 0) : idb y ≤ 1 := by
  rw [idb_eq]
  exact Real.rpow_le_one_of_one_le_of_nonpos (by norm_num) (by linarith)

theorem dbm_eq (x : ℝ) : dbm x = db (x * 1000) := by simp [dbm, db]

theorem idbm_eq (y : ℝ) : idbm y = idb y / 1000 := by
  unfold idbm idb
  rw [pow10_real, pow10_real, lit_real, Real.rpow_sub (by norm_num)]
  norm_num

theorem idbm_dbm (x : ℝ) (hx : 0 < x) : idbm (dbm x) = x := by
  rw [idbm_eq, dbm_eq, idb_db _ (by positivity), mul_div_cancel_right₀ _ (by norm_num)]

theorem dbm_idbm (y : ℝ) : dbm (idbm y) = y := by
  rw [idbm_eq, dbm_eq, div_mul_cancel₀ _ (by norm_num), db_idb]

theorem dbm_eq_db_add_30 (x : ℝ) (hx : 0 < x) : dbm x = db x + 30 := by
  have h : Real.logb 10 1000 = 3 := by
    rw [show (1000:ℝ) = 10 ^ (3:ℝ) by norm_num, Real.logb_rpow (by norm_num) (by norm_num)]
  rw [dbm_eq, db_mul x 1000 hx (by norm_num), db_eq 1000, h]
  norm_num

theorem dbE_error_iff (x : ℝ) : dbE x = .error .ValueError ↔ x < 0 := by
  unfold dbE
  rw [lit_real, Nat.cast_zero]
  exact ite_error_iff

theorem dbmE_error_iff (x : ℝ) : dbmE x = .error .ValueError ↔ x < 0 := by
  unfold dbmE
  rw [lit_real, Nat.cast_zero]
  exact ite_error_iff

theorem dbE_ok (x : ℝ) (h : 0 ≤ x) : dbE x = .ok (db x) := by
  unfold dbE
  rw [lit_real, Nat.cast_zero, if_neg (not_lt.mpr h)]

theorem half_real : (half : ℝ) = 1 / 2 := by simp [half]

theorem gaus_real (x mu std : ℝ) :
    gaus x mu std = 1 / std / Real.sqrt (2 * Real.pi) * Real.exp (-(1/2) * ((x - mu) * (x - mu)) / (std * std)) := by
  simp only [gaus, half, Nat.cast_one, Nat.cast_ofNat, Transc.sqrt_real, Transc.pi_real, Transc.exp_real]

theorem gaus_pos (x mu std : ℝ) (hs : 0 < std) : 0 < gaus x mu std := by
  rw [gaus_real]; positivity

theorem abs_real (x : ℝ) : Conv.abs x = |x| := by
  simp only [Conv.abs, Nat.cast_zero, ite_neg_eq_abs]

theorem rcos_real (x alpha T : ℝ) :
    rcos x alpha T =
      if |x| ≤ (1 - alpha) / (2 * T) then 1
      else if (1 + alpha) / (2 * T) < |x| then 0
      else 1 / 2 * (1 + Real.cos (Real.pi * T / alpha * (|x| - (1 - alpha) / (2 * T)))) := by
  unfold rcos
  simp only [abs_real, half_real, Transc.cos_real, Transc.pi_real, Nat.cast_one, Nat.cast_ofNat, Nat.cast_zero]

theorem rcos_range (x alpha T : ℝ) : 0 ≤ rcos x alpha T ∧ rcos x alpha T ≤ 1 := by
  have roll : ∀ θ : ℝ, 0 ≤ 1 / 2 * (1 + Real.cos θ) ∧ 1 / 2 * (1 + Real.cos θ) ≤ 1 := fun θ => by
    have h0 : 0 ≤ 1 + Real.cos θ := neg_le_iff_add_nonneg'.mp (Real.neg_one_le_cos θ)
    have h2 : 1 + Real.cos θ ≤ 1 + 1 := add_le_add_right (Real.cos_le_one θ) 1
    exact ⟨mul_nonneg one_half_pos.le h0, (mul_le_mul_of_nonneg_left h2 one_half_pos.le).trans (by norm_num)⟩
  rw [rcos_real]
  split_ifs
  · exact ⟨zero_le_one, le_rfl⟩
  · exact ⟨le_rfl, zero_le_one⟩
  · exact roll _

theorem rcos_even (x alpha T : ℝ) : rcos (-x) alpha T = rcos x alpha T := by
  rw [rcos_real, rcos_real, abs_neg]

theorem rcos_half (alpha T : ℝ) (ha : 0 < alpha) (hT : 0 < T) : rcos (1 / (2 * T)) alpha T = 1 / 2 := by
  have h2T : 0 < 2 * T := mul_pos two_pos hT
  -- `1/(2T)` lies strictly between the corners `(1 ∓ alpha)/(2T)`, and the roll-off angle there is `π/2`
  have h1 : ¬ 1 / (2 * T) ≤ (1 - alpha) / (2 * T) :=
    not_le.mpr (div_lt_div_of_pos_right (sub_lt_self 1 ha) h2T)
  have h2 : ¬ (1 + alpha) / (2 * T) < 1 / (2 * T) :=
    not_lt.mpr (div_le_div_of_nonneg_right (le_add_of_nonneg_right ha.le) h2T.le)
  have hθ : Real.pi * T / alpha * (1 / (2 * T) - (1 - alpha) / (2 * T)) = Real.pi / 2 := by
    rw [← sub_div, sub_sub_cancel]
    field_simp
  rw [rcos_real, abs_of_pos (one_div_pos.mpr h2T), if_neg h1, if_neg h2, hθ, Real.cos_pi_div_two, add_zero, mul_one]

theorem rcos_zero_beyond (x alpha T : ℝ) (ha : 0 ≤ alpha) (hT : 0 < T) (hx : (1 + alpha) / (2 * T) < |x|) :
    rcos x alpha T = 0 := by
  have hle : (1 - alpha) / (2 * T) ≤ (1 + alpha) / (2 * T) :=
    div_le_div_of_nonneg_right ((sub_le_self 1 ha).trans (le_add_of_nonneg_right ha)) (mul_pos two_pos hT).le
  rw [rcos_real, if_neg (not_le.mpr (hle.trans_lt hx)), if_pos hx]

end OptiVerif.Conv
