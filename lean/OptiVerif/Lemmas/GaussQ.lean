import OptiVerif.Lemmas.QSpec
import Mathlib.Probability.Distributions.Gaussian.Real

open MeasureTheory ProbabilityTheory Set

namespace OptiVerif.GaussQ

/-- the upper tail of the standard normal law -/
noncomputable def gQ (x : ℝ) : ℝ := ((gaussianReal 0 1) (Ioi x)).toReal

theorem gQ_symm (x : ℝ) : gQ x + gQ (-x) = 1 := by
  have : NullSingletonClass (gaussianReal 0 1) := nullSingletonClass_gaussianReal one_ne_zero
  -- the law is symmetric, and the point `x` carries no mass
  have hneg : (gaussianReal 0 1).real (Ioi (-x)) = (gaussianReal 0 1).real (Ioi x)ᶜ := by
    have h := gaussianReal_map_neg (μ := 0) (v := 1)
    rw [neg_zero] at h
    rw [compl_Ioi, ← measureReal_congr Iio_ae_eq_Iic]
    conv_lhs => rw [← h, map_measureReal_apply measurable_neg measurableSet_Ioi]
    congr 1; ext y; simp
  change (gaussianReal 0 1).real (Ioi x) + (gaussianReal 0 1).real (Ioi (-x)) = 1
  rw [hneg, probReal_compl_eq_one_sub measurableSet_Ioi, add_sub_cancel]

theorem gQ_spec : Ber.QSpec gQ where
  anti _ _ hab := measureReal_mono (Ioi_subset_Ioi hab) (measure_ne_top _ _)
  symm := gQ_symm
  nonneg _ := measureReal_nonneg
  le_one _ := measureReal_le_one

/-- the defining property of the complementary error function in terms of the Gaussian law:
    `erfc y = (2/√π) ∫_y^∞ e^{-t²} dt = 2 · P(Z > √2 · y)`.  This is the assumption on `scipy.special.erfc`. -/
def ErfcSpec (erfc : ℝ → ℝ) : Prop := ∀ y, erfc y = 2 * gQ (Real.sqrt 2 * y)

/-- the specification is satisfiable -/
noncomputable def erfcRef (y : ℝ) : ℝ := 2 * gQ (Real.sqrt 2 * y)
theorem erfcRef_spec : ErfcSpec erfcRef := fun _ => rfl

end OptiVerif.GaussQ
