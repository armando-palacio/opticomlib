/-
Helper lemmas for C05 (DAC / SAMPLER).  The NRZ and RZ waveforms are one block of `sps` samples per bit (`slot`, `wave_eq_flatMap`)
and `xs[start :: step]` is indexed by `start + m·step` (`getElem?_slice`); `dac_ok` and `sampler_dac` put the two together.
-/
import Mathlib.Tactic.Ring
import Mathlib.Algebra.Order.Field.Rat
import OptiVerif.Model.Dac
import OptiVerif.Lemmas.Blocks
import OptiVerif.Lemmas.Guard
import OptiVerif.Lemmas.IteOrder

namespace OptiVerif.Dac

theorem getElem?_filterMap_of_isSome {α β : Type} {f : α → Option β} {l : List α} (h : ∀ a ∈ l, (f a).isSome) (m : ℕ) :
    (l.filterMap f)[m]? = l[m]?.bind f := by
  induction l generalizing m with
  | nil => rfl
  | cons a l ih =>
    obtain ⟨b, hb⟩ := Option.isSome_iff_exists.mp (h a List.mem_cons_self)
    rw [List.filterMap_cons_some hb]
    cases m with
    | zero => exact hb.symm
    | succ m => exact ih (fun a ha => h a (List.mem_cons_of_mem _ ha)) m

theorem lt_sliceCount_iff (len start step m : ℕ) (hs : 0 < step) :
    m < sliceCount len start step ↔ start + m * step < len := by
  unfold sliceCount
  split
  · constructor <;> intro h <;> omega
  · rw [Nat.lt_iff_add_one_le, Nat.le_div_iff_mul_le hs, Nat.succ_mul]
    omega

/-- one sample per slot -/
theorem sliceCount_slots (n sps k : Nat) (hk : k < sps) : sliceCount (n * sps) k sps = n := by
  refine eq_of_forall_lt_iff fun m => ?_
  rw [lt_sliceCount_iff _ _ _ _ (by omega)]
  constructor
  · intro h
    by_contra hm
    have := Nat.mul_le_mul_right sps (not_lt.mp hm)
    omega
  · intro h
    have := mul_add_lt_mul h hk
    omega

private theorem slice_isSome {α : Type} (xs : List α) (start step : ℕ) (hs : 0 < step) :
    ∀ m ∈ List.range (sliceCount xs.length start step), (xs[start + m * step]?).isSome := fun m hm => by
  rw [isSome_getElem?]
  exact (lt_sliceCount_iff _ _ _ _ hs).mp (List.mem_range.mp hm)

theorem length_slice {α : Type} (xs : List α) (start step : ℕ) (hs : 0 < step) :
    (slice xs start step).length = sliceCount xs.length start step := by
  rw [slice, List.filterMap_length_eq_length.mpr (slice_isSome xs start step hs), List.length_range]

theorem getElem?_slice {α : Type} (xs : List α) (start step m : ℕ) (hs : 0 < step) :
    (slice xs start step)[m]? = xs[start + m * step]? := by
  rw [slice, getElem?_filterMap_of_isSome (slice_isSome xs start step hs)]
  by_cases hm : m < sliceCount xs.length start step
  · rw [List.getElem?_range hm]; rfl
  · rw [List.getElem?_eq_none (by simpa using hm),
      List.getElem?_eq_none (not_lt.mp (mt (lt_sliceCount_iff _ _ _ _ hs).mpr hm))]
    rfl

theorem slice_flatMap_block {α β : Type} (g : α → List β) (sps : ℕ) (hg : ∀ a, (g a).length = sps) (l : List α)
    (k : ℕ) (hk : k < sps) (f : α → β) (hf : ∀ a, (g a)[k]? = some (f a)) : slice (l.flatMap g) k sps = l.map f := by
  apply List.ext_getElem?
  intro j
  rw [getElem?_slice _ _ _ _ (by omega), Nat.add_comm, getElem?_flatMap_block g sps hg l j k hk, List.getElem?_map]
  cases l[j]? with
  | none => rfl
  | some a => exact hf a

/-- Python clamps a slice start to the length; a start at or beyond the length selects nothing either way -/
theorem slice_normStart {α : Type} (xs : List α) {k : ℤ} (hk : 0 ≤ k) (step : ℕ) :
    slice xs (normStart xs.length k) step = slice xs k.toNat step := by
  rw [normStart, if_neg (by omega)]
  rcases le_total k.toNat xs.length with h | h
  · rw [Nat.min_eq_left h]
  · simp only [Nat.min_eq_right h, slice, sliceCount, if_pos h, if_pos (le_refl xs.length), List.range_zero,
      List.filterMap_nil]

theorem sampler_ok {sig noise k sps s n} (h : sampler sig noise k sps = .ok (s, n)) :
    0 < sps ∧ s = slice sig (normStart sig.length k) sps ∧
      n = noise.map (fun nz => slice nz (normStart nz.length k) sps) := by
  simp only [sampler, ite_error_eq_ok, Except.ok.injEq, Prod.mk.injEq] at h
  exact ⟨by omega, h.2.2.1.symm, h.2.2.2.symm⟩

open OptiVerif.Gen.DacLimits

/-- the `sps` samples one bit contributes to the unscaled waveform: its block of `np.kron(bits, np.ones(sps))`, for RZ times
    `rz_pulse` (the period of `np.tile(rz_pulse, len(bits))`).  `.gauss` gets the RZ block only so that `length_slot` needs
    no hypothesis -/
def slot (sh : Shape) (sps b : ℕ) : List ℚ :=
  match sh with
  | .nrz => List.replicate sps (b : ℚ)
  | _ => List.zipWith (· * ·) (List.replicate sps (b : ℚ)) (rzPulse sps)

theorem length_slot (sh : Shape) (sps b : ℕ) : (slot sh sps b).length = sps := by
  cases sh <;> simp [slot, rzPulse]

theorem getElem?_slot (sh : Shape) (sps b i : ℕ) (hi : i < sps) :
    (slot sh sps b)[i]? = some (if sh = .nrz ∨ i < rzDuty sps then (b : ℚ) else 0) := by
  cases sh <;> simp [slot, rzPulse, hi]

theorem tile_succ (p : List ℚ) (n : ℕ) : tile p (n + 1) = p ++ tile p n := by simp [tile, List.replicate_succ]

theorem wave_eq_flatMap (sh : Shape) (hsh : sh ≠ .gauss) (bits : List ℕ) (sps : ℕ) :
    wave sh bits sps = some (bits.flatMap (slot sh sps)) := by
  cases sh with
  | gauss => exact absurd rfl hsh
  | nrz => rfl
  | rz =>
    simp only [wave, Option.some.injEq]
    induction bits with
    | nil => rfl
    | cons b bits ih =>
      rw [kron, List.flatMap_cons, ← kron, List.length_cons, tile_succ, List.zipWith_append (by simp [rzPulse]), ih,
        List.flatMap_cons]
      rfl

theorem lvl_some (V B x : ℚ) : lvl (some V) (some B) x = B + V * x := by simp [lvl]; ring

theorem length_scale_flatMap_slot (sh : Shape) (bits : List ℕ) (sps : ℕ) (v b : Option ℚ) :
    (scale (bits.flatMap (slot sh sps)) v b).length = bits.length * sps := by
  rw [scale, List.length_map, length_flatMap_block _ sps _ fun b _ => length_slot sh sps b]

theorem ratAbs_eq_abs (q : ℚ) : ratAbs q = |q| := ite_neg_eq_abs q

theorem checkLevel_of_ne {v : PyVal} (hv : v ≠ .pynone) (tys tyErr bad badErr) :
    checkLevel v tys tyErr bad badErr =
      if !isInst v tys then .error tyErr else
      match v.toRat? with
      | some q => if bad q then .error badErr else .ok (some q)
      | none => .error tyErr := by
  cases v <;> first | rfl | exact absurd rfl hv

theorem checkLevel_ok {v : PyVal} {tys tyErr bad badErr r}
    (h : checkLevel v tys tyErr bad badErr = .ok r) : r = v.toRat? ∧ ∀ q, r = some q → bad q = false := by
  by_cases hv : v = .pynone
  · subst hv; cases h; exact ⟨rfl, fun _ h => nomatch h⟩
  · rw [checkLevel_of_ne hv, ite_error_eq_ok] at h
    cases hq : v.toRat? with
    | none => rw [hq] at h; cases h.2
    | some q =>
      rw [hq] at h
      obtain ⟨hb, e⟩ := ite_error_eq_ok.mp h.2
      cases e
      exact ⟨rfl, fun q' e => by cases e; simpa using hb⟩

theorem checkLevel_float {q : ℚ} {tys tyErr bad badErr} (hty : isInst (.float q) tys = true) (hb : bad q = false) :
    checkLevel (.float q) tys tyErr bad badErr = .ok (some q) := by
  rw [checkLevel_of_ne (by simp), hty]
  simp [PyVal.toRat?, hb]

/-- `validate` without the `do` -/
theorem validate_eq (bitsOk : Bool) (shape : Option Shape) (sps : ℕ) (c m T : Option PyVal) (vout bias : PyVal) :
    validate bitsOk shape sps c m T vout bias =
      if !bitsOk then .error .ValueError else
      match shape with
      | none => .error unknownShapeErr
      | some sh =>
        (if sh = .gauss then checkGauss sps c m T else .ok ()) >>= fun _ =>
        checkLevel vout voutTypes voutTypeErr voutBad voutBadErr >>= fun v =>
        checkLevel bias biasTypes biasTypeErr biasBad biasBadErr >>= fun b => .ok (v, b) := by
  cases bitsOk
  · rfl
  · cases shape with
    | none => rfl
    | some sh => cases sh <;> rfl

theorem checkGauss_eq (sps : ℕ) (c m T : Option PyVal) :
    checkGauss sps c m T =
      if !isInst (c.getD (.float cDefault)) cTypes then .error cTypeErr else
      checkIntKw (m.getD (.int mDefault)) mTypes mTypeErr mBad mBadErr >>= fun _ =>
      checkIntKw (T.getD (.int sps)) tTypes tTypeErr (fun t => tBad t sps) tBadErr := by
  simp only [checkGauss]
  split <;> rfl

theorem validate_ok {bitsOk shape sps c m T vout bias v b}
    (h : validate bitsOk shape sps c m T vout bias = .ok (v, b)) :
    bitsOk = true ∧ (v = vout.toRat? ∧ ∀ q, v = some q → voutBad q = false) ∧
      (b = bias.toRat? ∧ ∀ q, b = some q → biasBad q = false) := by
  rw [validate_eq, ite_error_eq_ok] at h
  obtain ⟨hb, h⟩ := h
  cases shape with
  | none => cases h
  | some sh =>
    simp only [Except.bind_eq_ok] at h
    obtain ⟨-, -, v', hA, b', hB, rfl, rfl⟩ := h
    exact ⟨by simpa using hb, checkLevel_ok hA, checkLevel_ok hB⟩

theorem dac_ok {bits sh sps c m T vout bias y}
    (h : dac bits (some sh) sps c m T vout bias = .ok (some y)) :
    (∀ b ∈ bits, b ≤ 1) ∧ sh ≠ .gauss ∧
      y = scale (bits.flatMap (slot sh sps)) vout.toRat? bias.toRat? ∧ y ≠ [] := by
  obtain ⟨⟨v, b⟩, hv, h⟩ := Except.bind_eq_ok.mp h
  obtain ⟨hbits, ⟨rfl, -⟩, ⟨rfl, -⟩⟩ := validate_ok hv
  have hsh : sh ≠ .gauss := by rintro rfl; cases h
  simp only [wave_eq_flatMap sh hsh] at h
  split at h
  · cases h
  · rename_i hne
    cases h
    exact ⟨by simpa using hbits, hsh, rfl, fun e => hne (List.isEmpty_iff.mpr e)⟩

theorem dac_of_validate {bits sh sps c m T vout bias v b} (hsh : sh ≠ .gauss)
    (hv : validate (bits.all (· ≤ 1)) (some sh) sps c m T vout bias = .ok (v, b))
    (hne : scale (bits.flatMap (slot sh sps)) v b ≠ []) :
    dac bits (some sh) sps c m T vout bias = .ok (some (scale (bits.flatMap (slot sh sps)) v b)) := by
  simp only [dac, hv, bind, Except.bind, wave_eq_flatMap sh hsh, List.isEmpty_iff, hne]
  rfl

theorem getElem?_dac {bits sh sps c m T vout bias y}
    (h : dac bits (some sh) sps c m T vout bias = .ok (some y)) (j i : ℕ) (hj : j < bits.length) (hi : i < sps) :
    y[j * sps + i]? =
      some (lvl vout.toRat? bias.toRat? (if sh = .nrz ∨ i < rzDuty sps then (bits[j] : ℚ) else 0)) := by
  obtain ⟨-, -, rfl, -⟩ := dac_ok h
  rw [scale, List.getElem?_map, getElem?_flatMap_block _ sps (length_slot sh sps) _ j i hi, List.getElem?_eq_getElem hj,
    Option.bind_some, getElem?_slot sh sps _ i hi]
  rfl

theorem sampler_dac {bits sh sps c m T vout bias y} (k : ℕ) (hk : k < sps) (hin : sh = .nrz ∨ k < rzDuty sps)
    (h : dac bits (some sh) sps c m T vout bias = .ok (some y)) :
    sampler y none k sps = .ok (bits.map (fun (b : ℕ) => lvl vout.toRat? bias.toRat? (b : ℚ)), none) := by
  obtain ⟨-, -, rfl, hne⟩ := dac_ok h
  have hsl : slice (scale (bits.flatMap (slot sh sps)) vout.toRat? bias.toRat?) k sps =
      bits.map (fun (b : ℕ) => lvl vout.toRat? bias.toRat? (b : ℚ)) := by
    rw [scale, List.map_flatMap]
    apply slice_flatMap_block _ sps (fun a => by rw [List.length_map, length_slot]) _ k hk
    intro n
    rw [List.getElem?_map, getElem?_slot sh sps n k hk, if_pos hin]
    rfl
  have hbits : bits ≠ [] := by rintro rfl; exact hne rfl
  rw [sampler, if_neg (by omega), slice_normStart _ (Int.natCast_nonneg k), Int.toNat_natCast, hsl,
    if_neg (by simpa using hbits)]
  rfl

/-- `hd` is `C05.rzDuty_documented`: passed in, so that no lemma of this file opens the generated `rzDuty` -/
theorem inside_pulse {sh : Shape} {sps k : ℕ} (hd : rzDuty sps = sps / 2)
    (hk : (sh = .nrz ∧ k < sps) ∨ (sh = .rz ∧ k < sps / 2)) :
    sh ≠ .gauss ∧ k < sps ∧ (sh = .nrz ∨ k < rzDuty sps) := by
  rcases hk with ⟨rfl, h⟩ | ⟨rfl, h⟩
  · exact ⟨by simp, h, Or.inl rfl⟩
  · exact ⟨by simp, by omega, Or.inr (hd ▸ h)⟩

theorem decideBit_level (V B x : ℚ) (hV : V ≠ 0) : decideBit V B (B + V * x) = if 1 / 2 < x then 1 else 0 := by
  have h : (B + V * x - (B + V / 2)) * V = V * V * (x - 1 / 2) := by ring
  simp only [decideBit, h, mul_pos_iff_of_pos_left (mul_self_pos.mpr hV), sub_pos]

theorem roundtrip_of_dac {bits sh sps V B k y} (hk : k < sps) (hin : sh = .nrz ∨ k < rzDuty sps)
    (hd : dac bits (some sh) sps none none none (.float V) (.float B) = .ok (some y)) :
    roundtrip bits sh sps V B k = .ok (bits.map fun (b : ℕ) => decideBit V B (lvl (some V) (some B) (b : ℚ))) := by
  have hs : sampler y none k sps = .ok (bits.map (fun (b : ℕ) => lvl (some V) (some B) (b : ℚ)), none) :=
    sampler_dac k hk hin hd
  simp only [roundtrip, hd, hs, bind, Except.bind, List.map_map]
  rfl

theorem roundtrip_ok {bits sh sps V B k ds} (h : roundtrip bits sh sps V B k = .ok ds) :
    ∃ y, dac bits (some sh) sps none none none (.float V) (.float B) = .ok (some y) := by
  obtain ⟨oy, hd, h⟩ := Except.bind_eq_ok.mp h
  cases oy with
  | none => cases h
  | some y => exact ⟨y, hd⟩

end OptiVerif.Dac
