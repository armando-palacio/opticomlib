/-
The model of `str2array` (Model/StrArray.lean): type inference is an if-ladder over four nested character classes;
the numeric path is inverted on texts of tokens (`IsTok`) joined by separators (`parseNumeric_tokens`, at
`render := renderInt` for C19).
-/
import OptiVerif.Model.StrArray
import OptiVerif.Lemmas.Guard
import Mathlib.Tactic.IntervalCases
import Mathlib.Data.Rat.Floor

namespace OptiVerif.StrArray

/-- an element separator: a non-empty run of commas / blanks -/
def IsElemSep (sep : List Char) : Prop := sep ≠ [] ∧ ∀ c ∈ sep, isSep c = true

/-- blank padding (what may surround the row separator `;`) -/
def IsBlank (w : List Char) : Prop := ∀ c ∈ w, isWs c = true

def digitChar (d : Nat) : Char := Char.ofNat (48 + d)

/-- the decimal digits of a natural number, most significant first (no leading zeros; `0` ↦ `"0"`) -/
def natDigits (n : Nat) : List Char :=
  if h : n < 10 then [digitChar n] else natDigits (n / 10) ++ [digitChar (n % 10)]
decreasing_by omega

/-- the usual fixed-point text of an integer -/
def renderInt (n : Int) : List Char := if n < 0 then '-' :: natDigits n.natAbs else natDigits n.natAbs

/-- one row: elements joined by a separator -/
def renderRow (sep : List Char) (xs : List Int) : List Char := List.intercalate sep (xs.map renderInt)

/-- the whole text: rows joined by `pre ; post` -/
def renderRows (sep pre post : List Char) (rows : List (List Int)) : List Char :=
  List.intercalate (pre ++ ';' :: post) (rows.map (renderRow sep))

/-- an integer as an array entry -/
def intEntry (n : Int) : Rat × Rat := ((n : Rat), 0)

/-- the value fits numpy's `int64` -/
def InRange (n : Int) : Prop := int64Min ≤ n ∧ n ≤ int64Max

def Rect (rows : List (List Int)) : Prop := rect rows = true

/-- the entry a bit character stands for -/
def bitVal (c : Char) : Rat × Rat := (if c = '1' then 1 else 0, 0)

/-- the text with blanks and commas removed, cut at `;` -/
def bitPieces (s : List Char) : List (List Char) := splitOn ';' (s.filter (fun c => c != ' ' && c != ','))

/-- a text made of the digits 0 and 1, blanks, commas and row separators -/
def IsBitText (s : List Char) : Prop := ∀ c ∈ s, c = '0' ∨ c = '1' ∨ c = ' ' ∨ c = ',' ∨ c = ';'

theorem isIntChar_of_isBoolChar {c : Char} (h : isBoolChar c = true) : isIntChar c = true := by
  simp only [isBoolChar, Bool.or_eq_true, beq_iff_eq] at h
  rcases h with (((rfl | rfl) | rfl) | rfl) | h
  · rfl
  · rfl
  · rfl
  · rfl
  · simp [isIntChar, h]

theorem isFloatChar_of_isIntChar {c : Char} (h : isIntChar c = true) : isFloatChar c = true := by
  simp only [isIntChar, Bool.or_eq_true] at h
  rcases h with ((((h | h) | h) | h) | h) | h <;> simp [isFloatChar, h]

theorem isComplexChar_of_isFloatChar {c : Char} (h : isFloatChar c = true) : isComplexChar c = true := by
  have e : isComplexChar c = (isFloatChar c || c == 'j' || c == 'i') := rfl
  simp [e, h]

theorem isSep_ne_semicolon {c : Char} (h : isSep c = true) : c ≠ ';' := by
  rintro rfl; exact absurd h (by decide)

theorem isSep_of_isWs {c : Char} (h : isWs c = true) : isSep c = true := by simp [isSep, h]

theorem isIntChar_of_isSep {c : Char} (h : isSep c = true) : isIntChar c = true := by
  simp only [isSep, Bool.or_eq_true] at h
  rcases h with h | h <;> simp [isIntChar, h]

theorem fullMatch_iff (p : Char → Bool) (s : List Char) :
    fullMatch p s = true ↔ s ≠ [] ∧ ∀ c ∈ s, p c = true := by
  unfold fullMatch
  cases s <;> simp

theorem fullMatch_mono {p q : Char → Bool} (h : ∀ c, p c = true → q c = true) {s : List Char}
    (hs : fullMatch p s = true) : fullMatch q s = true := by
  rw [fullMatch_iff] at *
  exact ⟨hs.1, fun c hc => h c (hs.2 c hc)⟩

section Ladder
variable {B I F C : Prop} [Decidable B] [Decidable I] [Decidable F] [Decidable C]

/-- an if-ladder over a chain of conditions `B → I → F → C` returns the first rung that holds -/
theorem ladder_eq_some_iff (hBI : B → I) (hIF : I → F) (hFC : F → C) (t : Ty) :
    (if B then some Ty.bool else if I then some .int else if F then some .float else if C then some .complex
      else none) = some t ↔
      match t with
      | .bool => B
      | .int => I ∧ ¬B
      | .float => F ∧ ¬I
      | .complex => C ∧ ¬F := by
  -- below the first condition that fails, all fail
  by_cases hC : C
  case neg =>
    have hF : ¬F := mt hFC hC
    have hI : ¬I := mt hIF hF
    have hB : ¬B := mt hBI hI
    cases t <;> simp [*]
  by_cases hF : F
  case neg =>
    have hI : ¬I := mt hIF hF
    have hB : ¬B := mt hBI hI
    cases t <;> simp [*]
  by_cases hI : I
  case neg =>
    have hB : ¬B := mt hBI hI
    cases t <;> simp [*]
  by_cases hB : B <;> cases t <;> simp [*]

theorem ladder_eq_none_iff (hBI : B → I) (hIF : I → F) (hFC : F → C) :
    (if B then some Ty.bool else if I then some .int else if F then some .float else if C then some .complex
      else none) = none ↔ ¬C := by
  have step : ∀ {p : Prop} [Decidable p] {a : Ty} {x : Option Ty},
      (if p then some a else x) = none ↔ ¬p ∧ x = none := by
    intro p _ a x
    by_cases h : p <;> simp [h]
  rw [step, step, step, step]
  exact ⟨fun h => h.2.2.2.1, fun hC => ⟨mt (hFC ∘ hIF ∘ hBI) hC, mt (hFC ∘ hIF) hC, mt hFC hC, hC, rfl⟩⟩

end Ladder

theorem inferType_some_iff (s : List Char) (t : Ty) :
    inferType s = some t ↔
      s ≠ [] ∧
      match t with
      | .bool => ∀ c ∈ s, isBoolChar c = true
      | .int => (∀ c ∈ s, isIntChar c = true) ∧ ¬ ∀ c ∈ s, isBoolChar c = true
      | .float => (∀ c ∈ s, isFloatChar c = true) ∧ ¬ ∀ c ∈ s, isIntChar c = true
      | .complex => (∀ c ∈ s, isComplexChar c = true) ∧ ¬ ∀ c ∈ s, isFloatChar c = true := by
  rcases eq_or_ne s [] with rfl | hne
  · simp [inferType, fullMatch]
  unfold inferType
  simp only [fullMatch_iff, and_iff_right hne]
  exact ladder_eq_some_iff (fun h c hc => isIntChar_of_isBoolChar (h c hc))
    (fun h c hc => isFloatChar_of_isIntChar (h c hc)) (fun h c hc => isComplexChar_of_isFloatChar (h c hc)) t

theorem inferType_none_iff (s : List Char) :
    inferType s = none ↔ s = [] ∨ ∃ c ∈ s, isComplexChar c = false := by
  unfold inferType
  rw [ladder_eq_none_iff (fullMatch_mono @isIntChar_of_isBoolChar) (fullMatch_mono @isFloatChar_of_isIntChar)
    (fullMatch_mono @isComplexChar_of_isFloatChar), fullMatch_iff]
  simp [or_iff_not_imp_left]

/-- the model's `str.split(sep)` is core's `List.splitOn` -/
theorem splitOn_eq (sep : Char) (s : List Char) : splitOn sep s = s.splitOn sep := by
  induction s with
  | nil => rfl
  | cons c cs ih =>
    obtain ⟨t, ts, h⟩ := List.exists_cons_of_ne_nil (List.splitOn_ne_nil sep cs)
    rw [splitOn, ih, List.splitOn_cons_eq_if_modifyHead, h]
    rfl

theorem flatten_splitOn {α : Type} [BEq α] (x : α) (xs : List α) : (xs.splitOn x).flatten = xs.filter (· != x) := by
  induction xs with
  | nil => rfl
  | cons c cs ih =>
    obtain ⟨t, ts, h⟩ := List.exists_cons_of_ne_nil (List.splitOn_ne_nil x cs)
    rw [List.splitOn_cons_eq_if_modifyHead, List.filter_cons, ← ih, h]
    cases hc : c == x <;> simp [bne, hc]

theorem splitRuns_ne_nil (s : List Char) : splitRuns s ≠ [] := by
  induction s with
  | nil => simp [splitRuns]
  | cons c cs ih =>
    unfold splitRuns
    cases h : splitRuns cs with
    | nil => simp
    | cons t ts =>
      simp only
      split_ifs
      · cases cs with
        | nil => simp
        | cons d ds => simp only; split_ifs <;> simp
      · simp

/-- a token: a non-empty text without separator characters of either kind -/
structure IsTok (t : List Char) : Prop where
  ne_nil : t ≠ []
  not_sep : ∀ c ∈ t, isSep c = false
  not_semicolon : ∀ c ∈ t, c ≠ ';'

theorem splitRuns_token_append {tok rest t : List Char} {ts : List (List Char)} (h : ∀ c ∈ tok, isSep c = false)
    (hr : splitRuns rest = t :: ts) : splitRuns (tok ++ rest) = (tok ++ t) :: ts := by
  induction tok with
  | nil => exact hr
  | cons c cs ih =>
    have hc : isSep c = false := h c List.mem_cons_self
    rw [List.cons_append, splitRuns, ih (fun d hd => h d (List.mem_cons_of_mem _ hd))]
    simp [hc]

theorem splitRuns_sep_append {sep rest : List Char} (hsep : IsElemSep sep)
    (hd : ∃ d ∈ rest.head?, isSep d = false) : splitRuns (sep ++ rest) = [] :: splitRuns rest := by
  obtain ⟨hne, hs⟩ := hsep
  obtain ⟨d, hd, hdsep⟩ := hd
  cases rest with
  | nil => cases hd
  | cons _ ds =>
    cases hd
    induction sep with
    | nil => exact absurd rfl hne
    | cons c cs ih =>
      have hc : isSep c = true := hs c List.mem_cons_self
      rw [List.cons_append, splitRuns]
      cases cs with
      | nil =>
        obtain ⟨t, ts, h'⟩ := List.exists_cons_of_ne_nil (splitRuns_ne_nil (d :: ds))
        simp [h', hc, hdsep]
      | cons e es =>
        have he : isSep e = true := hs e (by simp)
        rw [ih (by simp) (fun x hx => hs x (List.mem_cons_of_mem _ hx))]
        simp [hc, he]

theorem forall_mem_intercalate {sep : List Char} {P : Char → Prop} (hsep : ∀ c ∈ sep, P c) :
    ∀ {toks : List (List Char)}, (∀ t ∈ toks, ∀ c ∈ t, P c) → ∀ c ∈ List.intercalate sep toks, P c
  | [], _ => by simp [List.intercalate]
  | [t], h => by simpa using h t (by simp)
  | t :: u :: us, h => by
    rw [List.intercalate_cons_cons]
    simp only [List.mem_append]
    rintro c ((hc | hc) | hc)
    · exact h t (by simp) c hc
    · exact hsep c hc
    · exact forall_mem_intercalate hsep (fun x hx => h x (List.mem_cons_of_mem _ hx)) c hc

theorem dropWhile_blank_append {w s : List Char} (hw : IsBlank w) (hs : ∃ c ∈ s.head?, isSep c = false) :
    (w ++ s).dropWhile isWs = s := by
  obtain ⟨c, hc, hcs⟩ := hs
  cases s with
  | nil => cases hc
  | cons d t =>
    cases hc
    have hcw : ¬ isWs c = true := fun hw' => by rw [isSep_of_isWs hw'] at hcs; cases hcs
    rw [List.dropWhile_append_of_pos hw, List.dropWhile_cons_of_neg hcw]

/-- neither the first nor the last character is a separator: `strip` leaves such a text alone, and `splitRuns` sees
    a token begin at its head -/
structure Tight (s : List Char) : Prop where
  head : ∃ c ∈ s.head?, isSep c = false
  last : ∃ c ∈ s.getLast?, isSep c = false

namespace Tight

theorem ne_nil {s : List Char} (h : Tight s) : s ≠ [] := by
  rintro rfl; simpa using h.head

theorem append {a b : List Char} (m : List Char) (ha : Tight a) (hb : Tight b) : Tight (a ++ m ++ b) := by
  refine ⟨?_, ?_⟩
  · rw [List.append_assoc, List.head?_append_of_ne_nil _ ha.ne_nil]; exact ha.head
  · rw [List.getLast?_append_of_ne_nil _ hb.ne_nil]; exact hb.last

theorem intercalate {sep : List Char} : ∀ {toks : List (List Char)}, toks ≠ [] → (∀ t ∈ toks, Tight t) →
    Tight (List.intercalate sep toks)
  | [t], _, h => by simpa using h t (by simp)
  | t :: u :: us, _, h => by
    rw [List.intercalate_cons_cons]
    exact append sep (h t (by simp)) (intercalate (by simp) fun x hx => h x (List.mem_cons_of_mem _ hx))

theorem strip_pad {pre core post : List Char} (hpre : IsBlank pre) (hpost : IsBlank post) (h : Tight core) :
    strip (pre ++ core ++ post) = core := by
  unfold strip
  rw [List.append_assoc, dropWhile_blank_append hpre (by rw [List.head?_append_of_ne_nil _ h.ne_nil]; exact h.head),
    List.reverse_append, dropWhile_blank_append (by simpa [IsBlank] using hpost)
      (by rw [List.head?_reverse]; exact h.last),
    List.reverse_reverse]

end Tight

theorem IsTok.tight {t : List Char} (h : IsTok t) : Tight t :=
  ⟨⟨t.head h.ne_nil, List.head?_eq_some_head _, h.not_sep _ (List.head_mem _)⟩,
   ⟨t.getLast h.ne_nil, List.getLast?_eq_some_getLast _, h.not_sep _ (List.getLast_mem _)⟩⟩

theorem splitRuns_join {sep : List Char} (hsep : IsElemSep sep) : ∀ {toks : List (List Char)}, toks ≠ [] →
    (∀ t ∈ toks, IsTok t) → splitRuns (List.intercalate sep toks) = toks
  | [t], _, h => by
    rw [List.intercalate_singleton]
    simpa using splitRuns_token_append (h t (by simp)).not_sep (rest := []) rfl
  | t :: u :: us, _, h => by
    have hrest : ∀ x ∈ u :: us, IsTok x := fun x hx => h x (List.mem_cons_of_mem _ hx)
    rw [List.intercalate_cons_cons, List.append_assoc,
      splitRuns_token_append (h t (by simp)).not_sep
        (splitRuns_sep_append hsep (Tight.intercalate (by simp) fun x hx => (hrest x hx).tight).head),
      List.append_nil, splitRuns_join hsep (by simp) hrest]

theorem mapM_ok_of_forall {α β : Type} (f : α → Except Wire.Err β) (g : α → β) (xs : List α)
    (h : ∀ x ∈ xs, f x = .ok (g x)) : xs.mapM f = .ok (xs.map g) :=
  mapM_except_ok f g xs h

theorem rect_map {α β : Type} (f : List α → List β) (hf : ∀ l, (f l).length = l.length) (rows : List (List α)) :
    rect (rows.map f) = rect rows := by
  cases rows with
  | nil => rfl
  | cons r rs => simp [rect, hf, List.all_map, Function.comp_def]

section Rows
variable {sep pre post : List Char} (hsep : IsElemSep sep) (hpre : IsBlank pre) (hpost : IsBlank post)
include hsep

theorem row_no_semicolon {toks : List (List Char)} {w v : List Char} (hw : IsBlank w) (hv : IsBlank v)
    (htok : ∀ t ∈ toks, IsTok t) : ∀ c ∈ w ++ List.intercalate sep toks ++ v, c ≠ ';' := by
  simp only [List.mem_append]
  rintro c ((hc | hc) | hc)
  · exact isSep_ne_semicolon (isSep_of_isWs (hw c hc))
  · exact forall_mem_intercalate (fun c hc => isSep_ne_semicolon (hsep.2 c hc))
      (fun t ht => (htok t ht).not_semicolon) c hc
  · exact isSep_ne_semicolon (isSep_of_isWs (hv c hc))

include hpre hpost

theorem row_tokens {toks : List (List Char)} (hne : toks ≠ []) (htok : ∀ t ∈ toks, IsTok t) :
    splitRuns (strip (pre ++ List.intercalate sep toks ++ post)) = toks := by
  rw [Tight.strip_pad hpre hpost (Tight.intercalate hne fun t ht => (htok t ht).tight)]
  exact splitRuns_join hsep hne htok

/-- `lead` is the `post` of the `;` before, so that the induction can step over one separator -/
theorem rows_tokens : ∀ {rows : List (List (List Char))}, rows ≠ [] → (∀ r ∈ rows, r ≠ [] ∧ ∀ t ∈ r, IsTok t) →
    ∀ {lead : List Char}, IsBlank lead →
      (splitOn ';' (lead ++ List.intercalate (pre ++ ';' :: post) (rows.map (List.intercalate sep)))).map
        (fun p => splitRuns (strip p)) = rows
  | [r], _, h, lead, hlead => by
    obtain ⟨hr, ht⟩ := h r (by simp)
    have hnil : IsBlank [] := fun c hc => by cases hc
    have hno := row_no_semicolon hsep hlead hnil ht
    have := row_tokens hsep hlead hnil hr ht
    rw [List.append_nil] at hno this
    simp only [List.map_cons, List.map_nil, List.intercalate_singleton, splitOn_eq,
      List.splitOn_eq_singleton fun h => hno _ h rfl, this]
  | r :: r2 :: rs, _, h, lead, hlead => by
    obtain ⟨hr, ht⟩ := h r (by simp)
    have e : lead ++ List.intercalate (pre ++ ';' :: post) ((r :: r2 :: rs).map (List.intercalate sep)) =
        (lead ++ List.intercalate sep r ++ pre) ++ ';' ::
          (post ++ List.intercalate (pre ++ ';' :: post) ((r2 :: rs).map (List.intercalate sep))) := by
      simp [List.intercalate_cons_cons]
    rw [e, splitOn_eq, List.splitOn_append_cons_self_of_not_mem fun h => row_no_semicolon hsep hlead hpre ht _ h rfl,
      ← splitOn_eq, List.map_cons, row_tokens hsep hlead hpre hr ht,
      rows_tokens (by simp) (fun x hx => h x (List.mem_cons_of_mem _ hx)) hpost]

theorem parseNumeric_tokens {α : Type} {ty : Ty} {render : α → List Char} {entry : α → Rat × Rat}
    {rows : List (List α)} (hne : rows ≠ []) (hrows : ∀ r ∈ rows, r ≠ []) (hrect : rect rows = true)
    (h : ∀ r ∈ rows, ∀ a ∈ r, IsTok (render a) ∧ parseTok ty (render a) = .ok (entry a)) :
    parseNumeric ty
        (List.intercalate (pre ++ ';' :: post) (rows.map fun r => List.intercalate sep (r.map render))) =
      .ok (mkArr ty (rows.map fun r => r.map entry)) := by
  have htok := rows_tokens hsep hpre hpost (rows := rows.map fun r => r.map render) (by simpa using hne)
    (by simp only [List.forall_mem_map]
        exact fun r hr => ⟨by simpa using hrows r hr, fun a ha => (h r hr a ha).1⟩)
    (lead := []) (fun c hc => by cases hc)
  simp only [List.nil_append, List.map_map, Function.comp_def] at htok
  have hvals : (rows.map fun r => r.map render).mapM (fun toks => toks.mapM (parseTok ty)) =
      .ok (rows.map fun r => r.map entry) := by
    rw [List.mapM_map]
    refine mapM_ok_of_forall _ _ _ fun r hr => ?_
    rw [Function.comp_apply, List.mapM_map]
    exact mapM_ok_of_forall _ _ _ fun a ha => (h r hr a ha).2
  simp only [parseNumeric, htok, rect_map _ (fun l => List.length_map _), hrect, hvals]
  rfl

end Rows

theorem digitChar_isDigit {d : Nat} (h : d < 10) : (digitChar d).isDigit = true := by
  interval_cases d <;> rfl

theorem digitVal_digitChar {d : Nat} (h : d < 10) : digitVal (digitChar d) = d := by
  interval_cases d <;> rfl

theorem not_isSep_of_isDigit {c : Char} (h : c.isDigit = true) : isSep c = false ∧ c ≠ ';' := by
  -- code points 48 … 57: not `,` (44), not `;` (59), in no range of `isWs`
  have h : 48 ≤ c.toNat ∧ c.toNat ≤ 57 := by simpa [Char.isDigit, UInt32.le_iff_toNat_le] using h
  refine ⟨?_, by rintro rfl; simp at h⟩
  have hc : c ≠ ',' := by rintro rfl; simp at h
  simp only [isSep, isWs, Bool.or_eq_false_iff, beq_eq_false_iff_ne, ne_eq, hc, not_false_eq_true, true_and,
    Bool.and_eq_false_iff, decide_eq_false_iff_not]
  omega

theorem natOfDigits_append (a : List Char) (c : Char) : natOfDigits (a ++ [c]) = 10 * natOfDigits a + digitVal c := by
  simp [natOfDigits, List.foldl_append]

theorem natDigits_ne_nil (n : Nat) : natDigits n ≠ [] := by
  rw [natDigits]
  split <;> simp

theorem isDigit_of_mem_natDigits (n : Nat) : ∀ c ∈ natDigits n, c.isDigit = true := by
  fun_induction natDigits n with
  | case1 n h => simpa using digitChar_isDigit h
  | case2 n h ih =>
    simp only [List.mem_append, List.mem_singleton]
    rintro c (hc | rfl)
    · exact ih c hc
    · exact digitChar_isDigit (Nat.mod_lt _ (by omega))

theorem natOfDigits_natDigits (n : Nat) : natOfDigits (natDigits n) = n := by
  fun_induction natDigits n with
  | case1 n h => simp [natOfDigits, digitVal_digitChar h]
  | case2 n h ih =>
    rw [natOfDigits_append, ih, digitVal_digitChar (Nat.mod_lt _ (by omega))]
    omega

theorem parseInt_digits {ds : List Char} (hne : ds ≠ []) (hd : ∀ c ∈ ds, c.isDigit = true) :
    parseInt ds = some (natOfDigits ds : Int) ∧ parseInt ('-' :: ds) = some (-(natOfDigits ds : Int)) := by
  have hall : ds.all Char.isDigit = true := List.all_eq_true.mpr hd
  obtain ⟨c, r, rfl⟩ := List.exists_cons_of_ne_nil hne
  have hc := hd c List.mem_cons_self
  have hm : c ≠ '-' := by rintro rfl; exact absurd hc (by decide)
  have hp : c ≠ '+' := by rintro rfl; exact absurd hc (by decide)
  refine ⟨?_, by simp [parseInt, hall]⟩
  unfold parseInt
  split
  next heq => exact absurd (List.cons.inj heq).1 hm
  next heq => exact absurd (List.cons.inj heq).1 hp
  next => simp [hall]

theorem parseInt_renderInt (n : Int) : parseInt (renderInt n) = some n := by
  obtain ⟨hpos, hneg⟩ := parseInt_digits (natDigits_ne_nil n.natAbs) (isDigit_of_mem_natDigits n.natAbs)
  unfold renderInt
  split_ifs with hn
  · rw [hneg, natOfDigits_natDigits]; congr 1; omega
  · rw [hpos, natOfDigits_natDigits]; congr 1; omega

theorem renderInt_chars (n : Int) :
    ∀ c ∈ renderInt n, isSep c = false ∧ c ≠ ';' ∧ isIntChar c = true := by
  have hd : ∀ c ∈ natDigits n.natAbs, isSep c = false ∧ c ≠ ';' ∧ isIntChar c = true := fun c hc =>
    have h := isDigit_of_mem_natDigits _ c hc
    ⟨(not_isSep_of_isDigit h).1, (not_isSep_of_isDigit h).2, by simp [isIntChar, h]⟩
  unfold renderInt
  split_ifs
  · exact List.forall_mem_cons.mpr ⟨by decide, hd⟩
  · exact hd

theorem renderInt_tok (n : Int) : IsTok (renderInt n) where
  ne_nil := by
    have := natDigits_ne_nil n.natAbs
    unfold renderInt
    split_ifs <;> simp [this]
  not_sep c hc := (renderInt_chars n c hc).1
  not_semicolon c hc := (renderInt_chars n c hc).2.1

theorem InRange.not_out {n : Int} (h : InRange n) : ¬ (n < int64Min ∨ n > int64Max) := by
  unfold InRange at h; omega

theorem parseTok_int_render (n : Int) (h : InRange n) : parseTok .int (renderInt n) = .ok (intEntry n) := by
  unfold parseTok
  simp only [parseInt_renderInt]
  simp [h.not_out, intEntry]

theorem renderRows_chars {sep pre post : List Char} (hsep : IsElemSep sep) (hpre : IsBlank pre) (hpost : IsBlank post)
    {rows : List (List Int)} (hne : rows ≠ []) (hrows : ∀ r ∈ rows, r ≠ []) :
    renderRows sep pre post rows ≠ [] ∧ ∀ c ∈ renderRows sep pre post rows, isIntChar c = true := by
  have hws : ∀ {w : List Char}, IsBlank w → ∀ c ∈ w, isIntChar c = true :=
    fun hw c hc => isIntChar_of_isSep (isSep_of_isWs (hw c hc))
  unfold renderRows
  constructor
  · refine (Tight.intercalate (by simpa using hne) ?_).ne_nil
    simp only [List.forall_mem_map, renderRow]
    exact fun r hr => Tight.intercalate (by simpa using hrows r hr)
      (by simp only [List.forall_mem_map]; exact fun n _ => (renderInt_tok n).tight)
  · refine forall_mem_intercalate ?_ ?_
    · simp only [List.mem_append, List.mem_cons]
      rintro c (hc | rfl | hc)
      · exact hws hpre c hc
      · decide
      · exact hws hpost c hc
    · simp only [List.forall_mem_map, renderRow]
      exact fun r _ => forall_mem_intercalate (fun c hc => isIntChar_of_isSep (hsep.2 c hc))
        (by simp only [List.forall_mem_map]; exact fun n _ c hc => (renderInt_chars n c hc).2.2)

theorem parseNumeric_render {sep pre post : List Char} (hsep : IsElemSep sep) (hpre : IsBlank pre)
    (hpost : IsBlank post) {rows : List (List Int)} (hne : rows ≠ []) (hrows : ∀ r ∈ rows, r ≠ [])
    (hrect : Rect rows) (hrange : ∀ r ∈ rows, ∀ n ∈ r, InRange n) :
    parseNumeric .int (renderRows sep pre post rows) = .ok (mkArr .int (rows.map (fun r => r.map intEntry))) :=
  parseNumeric_tokens hsep hpre hpost hne hrows hrect fun r hr n hn =>
    ⟨renderInt_tok n, parseTok_int_render n (hrange r hr n hn)⟩

theorem truncRat_intCast (n : Int) : truncRat (n : Rat) = n := by
  unfold truncRat
  split_ifs <;> simp

theorem castEntry_int_intEntry (n : Int) (h : InRange n) : castEntry .int (intEntry n) = .ok (intEntry n) := by
  unfold castEntry intEntry
  simp only [truncRat_intCast]
  simp [h.not_out]

theorem mkArr_data (ty : Ty) (rows : List (List (Rat × Rat))) : (mkArr ty rows).data = rows.flatten := by
  unfold mkArr
  split <;> simp

theorem mkArr_ty (ty : Ty) (rows : List (List (Rat × Rat))) : (mkArr ty rows).ty = ty := by
  unfold mkArr
  split <;> rfl

theorem astype_fixed {d : Ty} {a : Arr} (hty : a.ty = d) (h : ∀ z ∈ a.data, castEntry d z = .ok z) :
    astype d a = .ok a := by
  unfold astype
  rw [mapM_ok_of_forall _ id _ h, List.map_id, ← hty]
  rfl

theorem astype_ty {d : Ty} {a b : Arr} (h : astype d a = .ok b) : b.ty = d := by
  unfold astype at h
  cases hm : a.data.mapM (castEntry d) <;> rw [hm] at h <;> cases h
  rfl

theorem astype_mkArr {α : Type} {d : Ty} {f : α → Rat × Rat} {rows : List (List α)}
    (h : ∀ r ∈ rows, ∀ a ∈ r, castEntry d (f a) = .ok (f a)) :
    astype d (mkArr d (rows.map (fun r => r.map f))) = .ok (mkArr d (rows.map (fun r => r.map f))) := by
  refine astype_fixed (mkArr_ty _ _) ?_
  simp only [mkArr_data, List.mem_flatten, List.mem_map]
  rintro z ⟨_, ⟨r, hr, rfl⟩, hz⟩
  obtain ⟨a, ha, rfl⟩ := List.mem_map.mp hz
  exact h r hr a ha

theorem bitPieces_chars (s : List Char) (hs : IsBitText s) : ∀ p ∈ bitPieces s, ∀ c ∈ p, c = '0' ∨ c = '1' := by
  intro p hp c hc
  have h : c ∈ (bitPieces s).flatten := List.mem_flatten.mpr ⟨p, hp, hc⟩
  simp only [bitPieces, splitOn_eq, flatten_splitOn, List.mem_filter, bne_iff_ne, Bool.and_eq_true] at h
  obtain ⟨⟨hcs, h1, h2⟩, h3⟩ := h
  rcases hs c hcs with h | h | h | h | h
  · exact Or.inl h
  · exact Or.inr h
  · exact absurd h h1
  · exact absurd h h2
  · exact absurd h h3

theorem bitOfChar_bit (c : Char) (h : c = '0' ∨ c = '1') : bitOfChar c = .ok (bitVal c) := by
  rcases h with rfl | rfl <;> rfl

theorem parseBits_spec (s : List Char) (hs : IsBitText s) :
    parseBits s =
      if rect (bitPieces s) then .ok (mkArr .bool ((bitPieces s).map (fun p => p.map bitVal)))
      else .error .ValueError := by
  have hm : (bitPieces s).mapM (fun p => p.mapM bitOfChar) = .ok ((bitPieces s).map (fun p => p.map bitVal)) :=
    mapM_ok_of_forall _ _ _ fun p hp =>
      mapM_ok_of_forall _ _ _ fun c hc => bitOfChar_bit c (bitPieces_chars s hs p hp c hc)
  unfold parseBits
  simp only [← bitPieces.eq_1, hm]
  cases rect (bitPieces s) <;> rfl

theorem castEntry_bool_bitVal (c : Char) : castEntry .bool (bitVal c) = .ok (bitVal c) := by
  unfold castEntry bitVal
  by_cases h : c = '1' <;> simp [h]

theorem IsBitText.isBoolChar {s : List Char} (hs : IsBitText s) : ∀ c ∈ s, isBoolChar c = true := fun c hc => by
  rcases hs c hc with rfl | rfl | rfl | rfl | rfl <;> decide

theorem str2array_of_none {s : List Char} (h : inferType s = none) (d : Option Ty) :
    str2array s d = .error .ValueError := by
  simp only [str2array, h]

theorem str2array_of_bool {s : List Char} (h : inferType s = some .bool) :
    str2array s none = parseBits s ∧ str2array s (some .bool) = (parseBits s).bind (astype .bool) := by
  constructor <;> simp only [str2array, h]
  · cases parseBits s <;> rfl
  · rfl

theorem str2array_int_dtype (s : List Char) (hne : s ≠ []) (hall : ∀ c ∈ s, isIntChar c = true) :
    str2array s (some .int) = (parseNumeric .int s).bind (astype .int) := by
  -- the text is of the bool or of the int class, and under `dtype=int` both take the numeric path
  by_cases hb : ∀ c ∈ s, isBoolChar c = true
  · simp only [str2array, (inferType_some_iff s .bool).mpr ⟨hne, hb⟩]
    rfl
  · simp only [str2array, (inferType_some_iff s .int).mpr ⟨hne, hall, hb⟩]
    rfl

theorem str2array_some_is_astype {s : List Char} {d : Ty} {a : Arr} (h : str2array s (some d) = .ok a) :
    ∃ a₀, astype d a₀ = .ok a := by
  unfold str2array at h
  cases hi : inferType s with
  | none => rw [hi] at h; cases h
  | some cls =>
    rw [hi] at h
    simp only [bind, Except.bind] at h
    split at h
    · cases h
    · exact ⟨_, h⟩

theorem str2array_none_of_int (s : List Char) (h : inferType s = some .int) :
    str2array s none = parseNumeric .int s := by
  simp only [str2array, h]
  cases parseNumeric .int s <;> rfl

end OptiVerif.StrArray
