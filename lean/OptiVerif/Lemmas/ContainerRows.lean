/-
Arrays and rows of the container model.  Facts about several `Rows` at once (`bin`, signal + noise) are proved row
by row (`Rows.row`, `ext_row`) instead of by cases on every argument.
-/
import OptiVerif.Model.Container

namespace OptiVerif.Container

variable {α : Type}

theorem DType.rank_le_max_left (a b : DType) : a.rank ≤ (DType.max a b).rank := by
  unfold DType.max; split <;> omega

theorem DType.rank_le_max_right (a b : DType) : b.rank ≤ (DType.max a b).rank := by
  unfold DType.max; split <;> omega

theorem DType.max_self (a : DType) : DType.max a a = a := by simp [DType.max]

theorem castV_fun_of_le [DropIm α] {src tgt : DType} (h : src.rank ≤ tgt.rank) :
    (castV src tgt : α → α) = id := by
  funext x
  unfold castV
  split
  · rename_i hc
    obtain ⟨h1, h2⟩ := hc
    subst h1
    cases tgt <;> simp [DType.rank] at h h2
  · rfl

theorem Data.map_id (d : Data α) : d.map id = d := by
  cases d <;> simp [Data.map]

theorem Data.shape_map (f : α → α) (d : Data α) : (d.map f).shape = d.shape := by
  cases d with
  | s x => rfl
  | v xs => simp [Data.map, Data.shape]
  | m rows => cases rows <;> simp [Data.map, Data.shape]

theorem Data.lastDim_eq (d : Data α) : d.lastDim = d.shape.getLast?.getD 1 := by
  rcases d with _ | _ | (_ | _) <;> rfl

theorem Data.lastDim_of_shape {d d' : Data α} (h : d'.shape = d.shape) : d'.lastDim = d.lastDim := by
  rw [Data.lastDim_eq, Data.lastDim_eq, h]

theorem Data.lastDim_map (f : α → α) (d : Data α) : (d.map f).lastDim = d.lastDim :=
  Data.lastDim_of_shape (Data.shape_map f d)

theorem Data.ragged_eq_false_iff (d : Data α) : d.ragged = false ↔ d.Rect := by
  cases d <;> simp [Data.Rect, Data.ragged]

theorem Data.rect_map (f : α → α) (d : Data α) : (d.map f).Rect ↔ d.Rect := by
  cases d with
  | m rows => cases rows <;> simp [Data.map, Data.Rect, rect]
  | _ => simp [Data.map, Data.Rect]

namespace Rows

theorem count_mapL (f : List α → List α) (r : Rows α) : (r.mapL f).count = r.count := by
  cases r <;> rfl

theorem count_map (f : α → α) (r : Rows α) : (r.map f).count = r.count := count_mapL _ r

theorem count_pos (r : Rows α) : 1 ≤ r.count := by cases r <;> simp [count]
theorem count_le_two (r : Rows α) : r.count ≤ 2 := by cases r <;> simp [count]

/-- row `i` of the broadcast shape (2,N): a one-row array shows its row in both places -/
def row : Rows α → Bool → List α
  | one xs, _ => xs
  | two xs _, false => xs
  | two _ ys, true => ys

theorem ext_row {A B : Rows α} (hc : A.count = B.count) (h : ∀ i, A.row i = B.row i) : A = B := by
  cases A <;> cases B <;> cases hc
  · exact congrArg one (h false)
  · exact congr (congrArg two (h false)) (h true)

theorem row_mapL (f : List α → List α) (r : Rows α) (i : Bool) : (r.mapL f).row i = f (r.row i) := by
  cases r <;> cases i <;> rfl

theorem row_bin (f : α → α → α) (A B : Rows α) (i : Bool) : (bin f A B).row i = zipB f (A.row i) (B.row i) := by
  cases A <;> cases B <;> cases i <;> rfl

theorem len_eq_row (r : Rows α) : r.len = (r.row false).length := by cases r <;> rfl

/-- rows of equal length: what is left of `Data.ragged` on an array an object holds -/
def Rect (r : Rows α) : Prop := ∀ i, (r.row i).length = r.len

instance (r : Rows α) : Decidable r.Rect :=
  decidable_of_iff ((r.row false).length = r.len ∧ (r.row true).length = r.len)
    ⟨fun h i => by cases i <;> simp [h.1, h.2], fun h => ⟨h false, h true⟩⟩

theorem valid_iff (r : Rows α) : r.Valid ↔ r.Rect ∧ 1 ≤ r.len := by
  cases r <;> simp [Valid, Rect, row, len, and_comm]

theorem ragged_toData (r : Rows α) : r.toData.ragged = true ↔ ¬ r.Rect := by
  cases r <;> simp [toData, Data.ragged, rect, Rect, row, len]

theorem shape_toData {r n : Rows α} :
    r.toData.shape ≠ n.toData.shape ↔ ¬ (n.count = r.count ∧ n.len = r.len) := by
  cases r <;> cases n <;> simp [toData, Data.shape, count, len, eq_comm]

theorem len_pos {r : Rows α} (h : r.Valid) : 1 ≤ r.len := ((valid_iff r).1 h).2

theorem length_row {r : Rows α} (hv : r.Valid) (i : Bool) : (r.row i).length = r.len := ((valid_iff r).1 hv).1 i

theorem length_row_eq {n r : Rows α} (hn : n.Valid) (hr : r.Valid) (hl : n.len = r.len) (i : Bool) :
    (n.row i).length = (r.row i).length := by
  rw [length_row hn, length_row hr, hl]

theorem length_row_or {a b : Rows α} (ha : a.Valid) (hb : b.Valid) (h : b.len = a.len ∨ b.len = 1) (i : Bool) :
    (b.row i).length = (a.row i).length ∨ (b.row i).length = 1 := by
  rw [length_row hb, length_row ha]; exact h

theorem mapL_shape {r : Rows α} (hr : r.Valid) {f : List α → List α} {m : Nat}
    (hf : ∀ xs : List α, xs.length = r.len → (f xs).length = m) :
    (r.mapL f).len = m ∧ ((r.mapL f).Valid ↔ 1 ≤ m) := by
  have hrow : ∀ i, ((r.mapL f).row i).length = m := fun i => by rw [row_mapL]; exact hf _ (length_row hr i)
  have hlen : (r.mapL f).len = m := by rw [len_eq_row]; exact hrow false
  refine ⟨hlen, ?_⟩
  rw [valid_iff, hlen]
  exact ⟨fun h => h.2, fun h => ⟨fun i => (hrow i).trans hlen.symm, h⟩⟩

theorem mapL_of_fix {r : Rows α} (hr : r.Valid) {f : List α → List α}
    (hf : ∀ xs : List α, xs.length = r.len → f xs = xs) : r.mapL f = r :=
  ext_row (count_mapL f r) fun i => by rw [row_mapL, hf _ (length_row hr i)]

/-- `x` has the shape of `a`: what the contract asks of a noise array -/
def Fits (x a : Rows α) : Prop := x.Valid ∧ x.count = a.count ∧ x.len = a.len

theorem map_fits (g : α → α) {x a : Rows α} (hx : x.Fits a) : (x.map g).Fits a := by
  obtain ⟨l, v⟩ := mapL_shape hx.1 (f := List.map g) (m := x.len) fun xs h => by rw [List.length_map, h]
  exact ⟨v.2 (len_pos hx.1), (count_map g x).trans hx.2.1, l.trans hx.2.2⟩

/-- the right operand of `zipB`, broadcast -/
def bc (n : Nat) : List α → List α
  | [y] => List.replicate n y
  | ys => ys

theorem map_eq_zipWith_replicate (f : α → α → α) (y : α) (xs : List α) :
    xs.map (fun x => f x y) = List.zipWith f xs (List.replicate xs.length y) := by
  induction xs with
  | nil => rfl
  | cons x xs ih => simp [List.replicate_succ, ih]

theorem zipB_eq (f : α → α → α) {xs ys : List α} (h : ys.length = xs.length ∨ ys.length = 1) :
    zipB f xs ys = List.zipWith f xs (bc xs.length ys) := by
  match ys, h with
  | [y], _ =>
    exact map_eq_zipWith_replicate f y xs
  | [], h =>
    have : xs = [] := by
      cases xs with
      | nil => rfl
      | cons x xs => simp at h
    subst this
    rfl
  | y :: y' :: ys, h =>
    match xs, h with
    | [], h => simp at h
    | [x], h => simp at h
    | x :: x' :: xs, _ => rfl

theorem bc_eq_self {n : Nat} {ys : List α} (h : ys.length = n) : bc n ys = ys := by
  subst h
  rcases ys with _ | ⟨y, _ | ⟨y', ys⟩⟩ <;> rfl

theorem bc_length {n : Nat} {ys : List α} (h : ys.length = n ∨ ys.length = 1) : (bc n ys).length = n := by
  rcases ys with _ | ⟨y, _ | ⟨y', ys⟩⟩ <;> simp [bc] at h ⊢ <;> omega

theorem zipB_length (f : α → α → α) {xs ys : List α} (h : ys.length = xs.length ∨ ys.length = 1) :
    (zipB f xs ys).length = xs.length := by
  rw [zipB_eq f h, List.length_zipWith, bc_length h, Nat.min_self]

theorem bin_count (f : α → α → α) (a b : Rows α) : (bin f a b).count = Nat.max a.count b.count := by
  cases a <;> cases b <;> rfl

theorem bin_len (f : α → α → α) {a b : Rows α} (h : b.len = a.len ∨ b.len = 1) : (bin f a b).len = a.len := by
  cases a <;> cases b <;> exact zipB_length f h

theorem bin_valid (f : α → α → α) {a b : Rows α} (ha : a.Valid) (hb : b.Valid) (h : b.len = a.len ∨ b.len = 1) :
    (bin f a b).Valid := by
  refine (valid_iff _).2 ⟨fun i => ?_, by rw [bin_len f h]; exact len_pos ha⟩
  rw [row_bin, bin_len f h, zipB_length f (length_row_or ha hb h i), length_row ha]

theorem row_bin_valid (f : α → α → α) {A B : Rows α} (hA : A.Valid) (hB : B.Valid) (hAB : B.len = A.len ∨ B.len = 1)
    (i : Bool) : (bin f A B).row i = List.zipWith f (A.row i) (bc A.len (B.row i)) := by
  rw [row_bin, zipB_eq f (length_row_or hA hB hAB i), length_row hA]

theorem bin_fits (f : α → α → α) {a b x y : Rows α} (hx : x.Fits a) (hy : y.Fits b) (hc : b.count ≤ a.count)
    (hl : b.len = a.len ∨ b.len = 1) : (bin f x y).Fits a := by
  have hl' : y.len = x.len ∨ y.len = 1 := by rw [hy.2.2, hx.2.2]; exact hl
  exact ⟨bin_valid f hx.1 hy.1 hl', by rw [bin_count, hx.2.1, hy.2.1]; exact Nat.max_eq_left hc,
    (bin_len f hl').trans hx.2.2⟩

end Rows

end OptiVerif.Container
