import OptiVerif.Lemmas.FiberNL

namespace OptiVerif.FiberNL
open OptiVerif.Fourier OptiVerif.Fiber

/-- a dark polarisation: `n` zero samples -/
def zeros (n : ℕ) : List (Cx ℝ) := List.replicate n czero

theorem czero_eq : (czero : Cx ℝ) = ⟨0, 0⟩ := Fourier.czero_eq

theorem nlMul_czero (gamma h : ℝ) (x : Cx ℝ) : nlMul gamma h x czero = czero := by
  rw [czero_eq]; exact Cx.zero_mul' _

theorem stepRow_zeros (wConv fs alphaP b2 b3 gamma : ℝ) (n : ℕ) (h : ℝ) :
    stepRow wConv fs alphaP b2 b3 gamma (zeros n) h = zeros n := by
  -- `zeros n` unfolds to the same list as `Fourier.zeroRow n`, which every frequency-domain filter keeps
  have ha : applyH (fiberH wConv (wAxis n fs) alphaP b2 b3 h) (List.replicate n czero) = List.replicate n czero :=
    applyH_zeroRow _ n (length_fiberH_wAxis ..)
  simp [stepRow, zeros, ha, nlMul_czero]

theorem spmRow_zeros (alphaP gamma L : ℝ) (n : ℕ) : spmRow alphaP gamma L (zeros n) = zeros n := by
  simp [spmRow, zeros, czero_eq, Cx.zero_mul']

theorem totalPower_with_zeros (x : List (Cx ℝ)) : totalPower [x, zeros x.length] = totalPower [x] := by
  apply List.ext_getElem <;> simp [totalPower, zeros, normSq_czero]

/-- the first polarisation paired with a dark one; total, so that `step_pair` needs no hypothesis on the field the loop
    returns -/
def pair (A : Rows ℝ) : Rows ℝ := [A.headD [], zeros (A.headD []).length]

theorem step_pair (wConv fs alphaP b2 b3 gamma : ℝ) (A : Rows ℝ) (h : ℝ) :
    step wConv fs alphaP b2 b3 gamma (pair A) h = pair (step wConv fs alphaP b2 b3 gamma A h) := by
  cases A <;> simp [pair, step, stepRow_zeros, length_stepRow, stepRow_nil]

theorem peak_pair {A : Rows ℝ} (hA : A.length = 1) : peak (pair A) = peak A := by
  obtain ⟨y, rfl⟩ := List.length_eq_one_iff.mp hA
  simp only [peak, pair, List.headD_cons, totalPower_with_zeros]

theorem fiber_pair (wConv kappa fs alpha b2 b3 gamma phiMax L : ℝ) (fuel : ℕ) (x : List (Cx ℝ)) :
    fiber wConv kappa fs alpha b2 b3 gamma phiMax L fuel (pair [x])
      = (fiber wConv kappa fs alpha b2 b3 gamma phiMax L fuel [x]).map (fun o => ⟨pair o.rows, o.steps⟩) := by
  by_cases hd : b2 = 0 ∧ b3 = 0 ∧ gamma ≠ 0
  · rw [fiber_of_spm _ _ _ _ hd, fiber_of_spm _ _ _ _ hd]
    simp [Except.map, pair, spmRow_zeros, length_spmRow]
  · have hfirst : firstH b2 b3 gamma phiMax L (pair [x]) = firstH b2 b3 gamma phiMax L [x] := by
      rw [firstH_eq, firstH_eq, peak_pair rfl]
    -- on one-row fields `pair` commutes with the step and keeps the peak power, hence the step rule
    rw [fiber_of_loop _ _ _ _ hd, fiber_of_loop _ _ _ _ hd, hfirst,
      loop_map_on (nextHF := nextH gamma phiMax L) (fun A => A.length = 1) pair (fun A h hA => by simpa [step] using hA)
        (fun A h _ => step_pair ..) (fun B hB => by simp only [nextH, peak_pair hB]) rfl]
    cases loop (step wConv fs (alpha / kappa) b2 b3 gamma) (nextH gamma phiMax L) L fuel [x]
      (firstH b2 b3 gamma phiMax L [x]) (firstH b2 b3 gamma phiMax L [x]) [] with
    | error e => rfl
    | ok r =>
      obtain ⟨A', acc, x'⟩ := r
      by_cases hz : L - x' = 0 <;> simp [Except.map, hz, step_pair]

end OptiVerif.FiberNL
