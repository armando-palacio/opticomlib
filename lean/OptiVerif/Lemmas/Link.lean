/-
Lemmas for the noise-free link (C03): the sampler inverts the slot expansion, mid-level decisions.
-/
import OptiVerif.Model.Link
import OptiVerif.Lemmas.Dac
import Mathlib.Data.Real.Basic
import Mathlib.Tactic.Linarith

namespace OptiVerif.Link

theorem sampleFrom_length {R : Type} [NatCast R] (xs : List R) (i sps m : ℕ) : (sampleFrom xs i sps m).length = m := by
  induction m generalizing i with
  | zero => rfl
  | succ m ih => simp [sampleFrom, ih]

theorem getElem?_sampleFrom {R : Type} [NatCast R] (xs : List R) (i sps m j : ℕ) :
    (sampleFrom xs i sps m)[j]? = if j < m then some (xs.getD (i + j * sps) ((0 : ℕ) : R)) else none := by
  induction m generalizing i j with
  | zero => rfl
  | succ m ih =>
    cases j with
    | zero => simp [sampleFrom]
    | succ j => simp [sampleFrom, ih, Nat.succ_mul, Nat.add_assoc, Nat.add_comm sps]

theorem sampler_eq_slice {R : Type} [NatCast R] (xs : List R) (i sps : ℕ) : sampler xs i sps = Dac.slice xs i sps := by
  rcases Nat.eq_zero_or_pos sps with rfl | hs
  · simp [sampler, Dac.slice, Dac.sliceCount]
  have hc : (xs.length + sps - 1 - i) / sps = Dac.sliceCount xs.length i sps := by
    unfold Dac.sliceCount
    split
    · exact Nat.div_eq_of_lt (by omega)
    · congr 1; omega
  rw [sampler, if_neg hs.ne', hc]
  apply List.ext_getElem?
  intro j
  rw [getElem?_sampleFrom, Dac.getElem?_slice _ _ _ _ hs]
  split
  · rename_i hj
    rw [List.getD_eq_getElem?_getD, List.getElem?_eq_getElem ((Dac.lt_sliceCount_iff _ _ _ _ hs).mp hj)]
    rfl
  · rename_i hj
    exact (List.getElem?_eq_none (not_lt.mp (mt (Dac.lt_sliceCount_iff _ _ _ _ hs).mpr hj))).symm

theorem sampler_slots {R : Type} [NatCast R] (vals : List R) (sps i : ℕ) (hi : i < sps) :
    sampler (vals.flatMap (fun v => List.replicate sps v)) i sps = vals := by
  rw [sampler_eq_slice, Dac.slice_flatMap_block _ sps (fun _ => List.length_replicate) vals i hi id
    (fun _ => by rw [List.getElem?_replicate, if_pos hi]; rfl), List.map_id]

theorem decideBit_eq_true_iff (v0 v1 y thr : ℝ) : decideBit v0 v1 y thr = true ↔ 0 < (y - thr) * (v1 - v0) := by
  rw [decideBit, decide_eq_true_eq, Nat.cast_zero]

theorem decideBit_mid (v0 v1 y : ℝ) :
    decideBit v0 v1 y ((v0 + v1) / 2) = true ↔ |y - v1| < |y - v0| := by
  have e : (y - (v0 + v1) / 2) * (v1 - v0) = ((y - v0) ^ 2 - (y - v1) ^ 2) / 2 := by ring
  rw [decideBit_eq_true_iff, e, div_pos_iff_of_pos_right two_pos, sub_pos, sq_lt_sq]

theorem decideBit_of_margin (v0 v1 y : ℝ) (b : Bool)
    (hy : |y - (if b then v1 else v0)| < |v1 - v0| / 2) :
    decideBit v0 v1 y ((v0 + v1) / 2) = b := by
  -- the other level is then farther than half the gap
  have tri : |v1 - v0| ≤ |y - v0| + |y - v1| := by
    rw [abs_sub_comm y v1, add_comm]; exact abs_sub_le v1 y v0
  cases b
  · rw [Bool.eq_false_iff, Ne, decideBit_mid]
    simp only [Bool.false_eq_true, if_false] at hy
    linarith
  · rw [decideBit_mid]
    simp only [if_true] at hy
    linarith

end OptiVerif.Link
