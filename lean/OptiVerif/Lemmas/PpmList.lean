/-
List lemmas for the PPM model (C12): `chunks` (numpy `reshape(n, m)`), `oneHot`, `ones`, `onIdx`.
-/
import OptiVerif.Model.Ppm
import OptiVerif.Lemmas.Blocks

namespace OptiVerif.Ppm

variable {α β : Type}

@[simp] theorem chunks_length (m n : Nat) (l : List α) : (chunks m n l).length = n := by
  induction n generalizing l with
  | zero => rfl
  | succ n ih => simp [chunks, ih]

theorem length_flatten_of_rows (m : Nat) (rows : List (List α)) (h : ∀ r ∈ rows, r.length = m) :
    rows.flatten.length = rows.length * m := by
  rw [← List.flatMap_id]
  exact length_flatMap_block id m rows h

theorem chunks_flatten_append (m n : Nat) (rows : List (List α)) (h : ∀ r ∈ rows, r.length = m) (l : List α) :
    chunks m (rows.length + n) (rows.flatten ++ l) = rows ++ chunks m n l := by
  induction rows with
  | nil => simp
  | cons r rs ih =>
    obtain ⟨rfl, h⟩ := List.forall_mem_cons.mp h
    simp [Nat.add_right_comm _ 1 n, chunks, ih h]

theorem chunks_flatten (m : Nat) (rows : List (List α)) (h : ∀ r ∈ rows, r.length = m) :
    chunks m rows.length rows.flatten = rows := by
  simpa [chunks] using chunks_flatten_append m 0 rows h []

theorem flatten_chunks (m n : Nat) (l : List α) : (chunks m n l).flatten = l.take (n * m) := by
  induction n generalizing l with
  | zero => simp [chunks]
  | succ n ih => rw [chunks, List.flatten_cons, ih, Nat.succ_mul, Nat.add_comm, List.take_add]

theorem chunks_row_length (m n : Nat) (l : List α) (h : n * m ≤ l.length) :
    ∀ r ∈ chunks m n l, r.length = m := by
  induction n generalizing l with
  | zero => exact fun r hr => nomatch hr
  | succ n ih =>
    rw [Nat.succ_mul] at h
    rw [chunks, List.forall_mem_cons, List.length_take]
    exact ⟨Nat.min_eq_left (Nat.le_trans (Nat.le_add_left _ _) h),
      ih _ (by rw [List.length_drop]; exact Nat.le_sub_of_add_le h)⟩

theorem chunks_append (m n1 n2 : Nat) (l1 l2 : List α) (h : l1.length = n1 * m) :
    chunks m (n1 + n2) (l1 ++ l2) = chunks m n1 l1 ++ chunks m n2 l2 := by
  have := chunks_flatten_append m n2 _ (chunks_row_length m n1 l1 (Nat.le_of_eq h.symm)) l2
  rwa [flatten_chunks, chunks_length, ← h, List.take_length] at this

theorem chunks_map (f : α → β) (m n : Nat) (l : List α) :
    chunks m n (l.map f) = (chunks m n l).map (List.map f) := by
  induction n generalizing l with
  | zero => rfl
  | succ n ih => simp only [chunks, List.map_cons, ← List.map_take, ← List.map_drop, ih]

theorem chunks_getElem? (m n i : Nat) (l : List α) (h : i < n) :
    (chunks m n l)[i]? = some ((l.drop (i * m)).take m) := by
  induction n generalizing l i with
  | zero => omega
  | succ n ih =>
    cases i with
    | zero => simp [chunks]
    | succ i => rw [chunks, List.getElem?_cons_succ, ih i _ (by omega), List.drop_drop, Nat.succ_mul, Nat.add_comm]

@[simp] theorem oneHot_length (M d : Nat) : (oneHot M d).length = M := by simp [oneHot]

theorem oneHot_succ_zero (M : Nat) : oneHot (M+1) 0 = true :: List.replicate M false := by
  simp [oneHot, List.replicate_succ]

theorem oneHot_succ_succ (M d : Nat) : oneHot (M+1) (d+1) = false :: oneHot M d := by
  simp [oneHot, List.replicate_succ]

theorem oneHot_getElem? (M d j : Nat) (hj : j < M) : (oneHot M d)[j]? = some (decide (d = j)) := by
  by_cases h : d = j <;> simp [oneHot, h, hj]

theorem length_oneHots (M : Nat) (f : β → Nat) (L : List β) :
    (L.map fun x => oneHot M (f x)).flatten.length = L.length * M := by
  rw [length_flatten_of_rows M _ (List.forall_mem_map.mpr fun _ _ => oneHot_length _ _), List.length_map]

theorem chunks_oneHots (M : Nat) (f : β → Nat) (L : List β) :
    chunks M L.length (L.map fun x => oneHot M (f x)).flatten = L.map fun x => oneHot M (f x) := by
  simpa using chunks_flatten M _ (List.forall_mem_map.mpr fun x _ => oneHot_length M (f x))

theorem oneHot_inj (M d e : Nat) (hd : d < M) (h : oneHot M d = oneHot M e) : d = e := by
  have h1 := oneHot_getElem? M d d hd
  rw [h, oneHot_getElem? M e d hd] at h1
  have : e = d := by simpa using h1
  exact this.symm

theorem ones_replicate_false (n : Nat) : ones (List.replicate n false) = 0 := by
  simp [ones, List.count_replicate]

theorem ones_cons (b : Bool) (s : List Bool) : ones (b :: s) = ones s + b.toNat := by
  cases b <;> simp [ones]

theorem ones_oneHot (M d : Nat) (h : d < M) : ones (oneHot M d) = 1 := by
  simp [ones, oneHot, List.count_set, h, List.count_replicate]

theorem eq_replicate_of_ones_zero (s : List Bool) (h : ones s = 0) : s = List.replicate s.length false :=
  List.eq_replicate_iff.mpr ⟨rfl, fun b hb => by
    cases b
    · rfl
    · exact absurd hb (List.count_eq_zero.mp h)⟩

theorem eq_oneHot_of_ones_one (s : List Bool) (h : ones s = 1) : ∃ d, d < s.length ∧ s = oneHot s.length d := by
  induction s with
  | nil => simp [ones] at h
  | cons b t ih =>
    rw [ones_cons] at h
    cases b with
    | true =>
      have ht : ones t = 0 := by simpa using h
      exact ⟨0, by simp, by rw [List.length_cons, oneHot_succ_zero, ← eq_replicate_of_ones_zero t ht]⟩
    | false =>
      obtain ⟨d, hd, ht⟩ := ih (by simpa using h)
      exact ⟨d+1, by simpa using hd, by rw [List.length_cons, oneHot_succ_succ, ← ht]⟩

theorem rows_oneHot (M : Nat) (rows : List (List Bool)) (h : ∀ r ∈ rows, r.length = M ∧ ones r = 1) :
    ∃ ds : List Nat, (∀ d ∈ ds, d < M) ∧ rows = ds.map (oneHot M) := by
  induction rows with
  | nil => exact ⟨[], by simp, rfl⟩
  | cons r t ih =>
    obtain ⟨⟨rfl, h1⟩, ht⟩ := List.forall_mem_cons.mp h
    obtain ⟨ds, hds, rfl⟩ := ih ht
    obtain ⟨d, hd, hr⟩ := eq_oneHot_of_ones_one r h1
    exact ⟨d :: ds, List.forall_mem_cons.mpr ⟨hd, hds⟩, by rw [List.map_cons, ← hr]⟩

/-- `np.where(row == 1)[0]` through core: the indices that `zipIdx` pairs with the ON entries -/
theorem onIdxFrom_eq (i : Nat) (s : List Bool) : onIdxFrom i s = ((s.zipIdx i).filter (·.1)).map (·.2) := by
  induction s generalizing i with
  | nil => rfl
  | cons b bs ih => cases b <;> simp [onIdxFrom, ih]

theorem onIdxFrom_append (i : Nat) (a b : List Bool) :
    onIdxFrom i (a ++ b) = onIdxFrom i a ++ onIdxFrom (i + a.length) b := by
  simp only [onIdxFrom_eq, List.zipIdx_append, List.filter_append, List.map_append]

theorem onIdxFrom_add (i c : Nat) (s : List Bool) : onIdxFrom (i + c) s = (onIdxFrom i s).map (· + c) := by
  induction s generalizing i with
  | nil => rfl
  | cons b bs ih => cases b <;> simp [onIdxFrom, Nat.add_right_comm i c 1, ih]

theorem onIdxFrom_length (i : Nat) (s : List Bool) : (onIdxFrom i s).length = ones s := by
  induction s generalizing i with
  | nil => rfl
  | cons b t ih => cases b <;> simp [onIdxFrom, ones_cons, ih]

theorem onIdxFrom_replicate_false (i n : Nat) : onIdxFrom i (List.replicate n false) = [] := by
  have := onIdxFrom_length i (List.replicate n false)
  rwa [ones_replicate_false, List.length_eq_zero_iff] at this

theorem onIdxFrom_oneHot (i M d : Nat) (h : d < M) : onIdxFrom i (oneHot M d) = [i + d] := by
  induction M generalizing i d with
  | zero => omega
  | succ M ih =>
    cases d with
    | zero => simp [oneHot_succ_zero, onIdxFrom, onIdxFrom_replicate_false]
    | succ d =>
      rw [oneHot_succ_succ]
      simp only [onIdxFrom, Bool.false_eq_true, if_false]
      rw [ih (i+1) d (by omega)]
      congr 1; omega

theorem mem_onIdxFrom (i : Nat) (s : List Bool) (p : Nat) (h : p ∈ onIdxFrom i s) :
    i ≤ p ∧ s[p - i]? = some true := by
  rw [onIdxFrom_eq] at h
  obtain ⟨⟨b, j⟩, hm, rfl⟩ := List.mem_map.mp h
  obtain ⟨hz, rfl⟩ := List.mem_filter.mp hm
  exact List.mem_zipIdx_iff_le_and_getElem?_sub.mp hz

end OptiVerif.Ppm
