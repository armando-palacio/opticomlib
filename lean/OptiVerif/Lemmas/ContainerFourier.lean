/-
Composition of the container model (C01) with the transform model of C02: on complex carriers the per-row transform
of `Container.transform` is `Fourier.callRow`, and it keeps row lengths (`Fourier.length_callRow`).
-/
import OptiVerif.Lemmas.Container
import OptiVerif.Lemmas.Shift
import Mathlib.Data.Real.Basic

namespace OptiVerif.Container

instance {R : Type} [Add R] [Sub R] [Mul R] [Div R] [Neg R] [NatCast R] [Transc R] : LawfulXform (Cx R) :=
  ⟨Fourier.length_callRow⟩

theorem Rows.toLists_mapL {α} (f : List α → List α) (r : Rows α) : (r.mapL f).toLists = r.toLists.map f := by
  cases r <;> rfl

theorem Rows.count_eq_length_toLists {α} (r : Rows α) : r.count = r.toLists.length := by cases r <;> rfl

theorem Rows.len_eq_head_toLists {α} (r : Rows α) : r.toLists.map List.length = List.replicate 1 r.len ++
    (match r with | .one _ => [] | .two _ ys => [ys.length]) := by
  cases r <;> rfl

theorem Sig.payload_mapL {R} (a : Sig (Cx R)) (dt : DType) (f : List (Cx R) → List (Cx R)) :
    (a.mapL dt f).payload = ⟨a.payload.sig.map f, a.payload.noise.map (List.map f)⟩ := by
  show (⟨(a.sig.mapL f).toLists, (a.noise.map (Rows.mapL f)).map Rows.toLists⟩ : Fourier.Payload R) =
    ⟨a.sig.toLists.map f, (a.noise.map Rows.toLists).map (List.map f)⟩
  rw [Rows.toLists_mapL]
  congr 1
  cases a.noise with
  | none => rfl
  | some n => exact congrArg some (Rows.toLists_mapL f n)

theorem Rows.mapV_shape {α β} (f : α → β) (r : Rows α) :
    (r.mapV f).count = r.count ∧ (r.mapV f).len = r.len ∧ ((r.mapV f).Valid ↔ r.Valid) := by
  cases r <;> simp [Rows.mapV, Rows.count, Rows.len, Rows.Valid]

theorem mapV_wf {α β} (f : α → β) {s : Sig α} (h : WF s) : WF (s.mapV f) := by
  obtain ⟨cs, ls, vs⟩ := Rows.mapV_shape f s.sig
  refine ⟨vs.2 h.valid, ?_, h.npol_rows.trans cs.symm, fun hE => cs.trans (h.elec_one hE)⟩
  intro n hn
  obtain ⟨nz, hnz, rfl⟩ := Option.map_eq_some_iff.1 hn
  obtain ⟨v, c, l⟩ := h.noise_shape nz hnz
  obtain ⟨cn, ln, vn⟩ := Rows.mapV_shape f nz
  exact ⟨vn.2 v, cn.trans (c.trans cs.symm), ln.trans (l.trans ls.symm)⟩

/-- the Gaussian integers the driver computes with, as complex numbers over ℝ -/
noncomputable def embR (z : Cx Int) : Cx ℝ := ⟨(z.re : ℝ), (z.im : ℝ)⟩

end OptiVerif.Container
