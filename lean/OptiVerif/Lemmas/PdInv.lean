import OptiVerif.Lemmas.Pd

namespace OptiVerif.Pd

/-- sample `k` of the row multiplied by `e^{jφ(k)}` -/
noncomputable def rotRow (φ : ℕ → ℝ) (row : List (Cx ℝ)) : List (Cx ℝ) := row.mapIdx fun k z => z * Cx.cis (φ k)

noncomputable def rotRows (φx φy : ℕ → ℝ) : Rows (Cx ℝ) → Rows (Cx ℝ)
  | .one a => .one (rotRow φx a)
  | .two a b => .two (rotRow φx a) (rotRow φy b)

/-- the same rotation applied to the signal and to the noise component (i.e. to the total field) -/
noncomputable def rotField (φx φy : ℕ → ℝ) (x : Pd.Field (Cx ℝ)) : Pd.Field (Cx ℝ) :=
  ⟨rotRows φx φy x.sig, x.noise.map (rotRows φx φy)⟩

/-- x row of `U_k (Ex, Ey)ᵀ`, `U_k = [[a, b], [-conj b, conj a]]` -/
def mixX (a b : ℕ → Cx ℝ) (x y : List (Cx ℝ)) : List (Cx ℝ) :=
  (x.zip y).mapIdx fun k p => a k * p.1 + b k * p.2
def mixY (a b : ℕ → Cx ℝ) (x y : List (Cx ℝ)) : List (Cx ℝ) :=
  (x.zip y).mapIdx fun k p => -(Cx.conj (b k)) * p.1 + Cx.conj (a k) * p.2

def mixRows (a b : ℕ → Cx ℝ) : Rows (Cx ℝ) → Rows (Cx ℝ)
  | .one x => .one x
  | .two x y => .two (mixX a b x y) (mixY a b x y)

def mixField (a b : ℕ → Cx ℝ) (x : Pd.Field (Cx ℝ)) : Pd.Field (Cx ℝ) :=
  ⟨mixRows a b x.sig, x.noise.map (mixRows a b)⟩

def scaleRows (c : Cx ℝ) (r : Rows (Cx ℝ)) : Rows (Cx ℝ) := r.map fun row => row.map (c * ·)

theorem beat_mul_right (s n c : Cx ℝ) : beat (s * c) (n * c) = c.normSq * beat s n := by
  simp only [beat_eq, Cx.normSq, Cx.mul_re, Cx.mul_im]; ring

theorem beat_mix (a b x y nx ny : Cx ℝ) :
    beat (a * x + b * y) (a * nx + b * ny) + beat (-(Cx.conj b) * x + Cx.conj a * y) (-(Cx.conj b) * nx + Cx.conj a * ny) =
      (a.normSq + b.normSq) * (beat x nx + beat y ny) := by
  simp only [beat_eq, Cx.normSq, Cx.conj, Cx.add_re, Cx.add_im, Cx.mul_re, Cx.mul_im, Cx.neg_re, Cx.neg_im]
  ring

theorem map_normSq_rotRow (φ : ℕ → ℝ) (row : List (Cx ℝ)) : (rotRow φ row).map Cx.normSq = row.map Cx.normSq :=
  List.ext_getElem (by simp [rotRow]) fun k _ _ => by simp [rotRow, Cx.normSq_mul_cis]

theorem beatRow_rot (φx φy : ℕ → ℝ) (s n : Rows (Cx ℝ)) :
    beatRow (rotRows φx φy s) (rotRows φx φy n) = beatRow s n := by
  have h : ∀ (φ : ℕ → ℝ) (s n : List (Cx ℝ)), List.zipWith beat (rotRow φ s) (rotRow φ n) = List.zipWith beat s n :=
    fun φ s n => List.ext_getElem (by simp [rotRow]) fun k _ _ => by simp [rotRow, beat_mul_right, Cx.normSq_cis]
  cases s <;> cases n <;> simp only [rotRows, beatRow, h]

theorem len_rot (φx φy : ℕ → ℝ) (r : Rows (Cx ℝ)) : (rotRows φx φy r).len = r.len := by
  cases r <;> simp [rotRows, Rows.len, rotRow]

/-- row by row, not through `powerRow` as `noisePowerSum_mix`: `pd_phase_inv` carries no shape hypothesis -/
theorem noisePowerSum_rot (φx φy : ℕ → ℝ) (r : Rows (Cx ℝ)) : noisePowerSum (rotRows φx φy r) = noisePowerSum r := by
  cases r <;> simp only [rotRows, noisePowerSum, cabs_mul_self, map_normSq_rotRow]

theorem length_mixX (a b : ℕ → Cx ℝ) (x y : List (Cx ℝ)) : (mixX a b x y).length = min x.length y.length := by simp [mixX]
theorem length_mixY (a b : ℕ → Cx ℝ) (x y : List (Cx ℝ)) : (mixY a b x y).length = min x.length y.length := by simp [mixY]

theorem beatRow_mix (a b : ℕ → Cx ℝ) (h : ∀ k, (a k).normSq + (b k).normSq = 1) (s n : Rows (Cx ℝ)) :
    beatRow (mixRows a b s) (mixRows a b n) = beatRow s n := by
  cases s <;> cases n <;> try rfl
  refine List.ext_getElem ?_ fun k _ _ => ?_
  · simp only [beatRow, mixRows, List.length_zipWith, length_mixX, length_mixY, min_self, min_min_min_comm]
  · simp only [beatRow, mixRows, List.getElem_zipWith, mixX, mixY, List.getElem_mapIdx, List.getElem_zip]
    rw [beat_mix, h k, one_mul]

theorem powerRow_mix (a b : ℕ → Cx ℝ) (h : ∀ k, (a k).normSq + (b k).normSq = 1) (r : Rows (Cx ℝ)) :
    powerRow (mixRows a b r) = powerRow r := by
  rw [powerRow_eq_beatRow, powerRow_eq_beatRow, beatRow_mix a b h]

theorem shaped_mix (a b : ℕ → Cx ℝ) {n : ℕ} {r : Rows (Cx ℝ)} (hr : r.Shaped n) : (mixRows a b r).Shaped n := by
  cases r with
  | one x => exact hr
  | two x y => simp [mixRows, Rows.Shaped, length_mixX, length_mixY, hr.1, hr.2]

theorem len_mix (a b : ℕ → Cx ℝ) {n : ℕ} {r : Rows (Cx ℝ)} (hr : r.Shaped n) : (mixRows a b r).len = r.len := by
  cases r with
  | one x => rfl
  | two x y => simp [mixRows, Rows.len, length_mixX, hr.1, hr.2]

theorem noisePowerSum_mix (a b : ℕ → Cx ℝ) (h : ∀ k, (a k).normSq + (b k).normSq = 1) {n : ℕ} {r : Rows (Cx ℝ)}
    (hr : r.Shaped n) : noisePowerSum (mixRows a b r) = noisePowerSum r := by
  rw [noisePowerSum_eq _ (shaped_mix a b hr), noisePowerSum_eq _ hr, powerRow_mix a b h]

/-- `PD` reads its input only through the record length, the beat `2·Re(s·n̄)` of pairs of fields — the power is its
    diagonal — and the mean noise power -/
theorem pdBody_map_inv {kB e fs r T Rl iDark Fn : ℝ} {sel : List Char} {dT dN : List ℝ} (f : Rows (Cx ℝ) → Rows (Cx ℝ))
    (x : Pd.Field (Cx ℝ)) (hlen : (f x.sig).len = x.sig.len) (hB : ∀ s n, beatRow (f s) (f n) = beatRow s n)
    (hS : ∀ nz, x.noise = some nz → noisePowerSum (f nz) = noisePowerSum nz) :
    pdBody kB e fs r T Rl iDark Fn sel dT dN ⟨f x.sig, x.noise.map f⟩ = pdBody kB e fs r T Rl iDark Fn sel dT dN x := by
  have hP : ∀ s, powerRow (f s) = powerRow s := fun s => by rw [powerRow_eq_beatRow, hB, ← powerRow_eq_beatRow]
  rw [pdBody_eq, pdBody_eq]
  cases hx : x.noise with
  | none => simp only [beatSN, beatNN, hx, Option.map_none, hlen, hP]
  | some nz => simp only [beatSN, beatNN, iAse, hx, Option.map_some, hlen, hP, hB, hS nz hx]

theorem powerRow_scale (c : Cx ℝ) (r : Rows (Cx ℝ)) : powerRow (scaleRows c r) = (powerRow r).map (c.normSq * ·) := by
  cases r <;> simp only [scaleRows, Rows.map, powerRow, List.map_map, List.map_zipWith, List.zipWith_map, Function.comp_def,
    Cx.normSq_mul, mul_add]

end OptiVerif.Pd
