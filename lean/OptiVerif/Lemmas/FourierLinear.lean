/-
Linearity of the DFT model: sums, constant factors and the zero row pass through every transform that is
point by point a weighted sum (`rowT`, `IsSum`), hence through `dft`, `idft`, and through the shifts.
-/
import OptiVerif.Lemmas.Fourier

namespace OptiVerif.Fourier

/-- element-wise sum of two rows, as numpy adds `signal + noise`; it truncates to the shorter row, hence the
    `xs.length = ys.length` in every law -/
def addRows (xs ys : List (Cx ℝ)) : List (Cx ℝ) := List.zipWith (· + ·) xs ys

def scaleRow (c : Cx ℝ) (xs : List (Cx ℝ)) : List (Cx ℝ) := xs.map (c * ·)

def zeroRow (n : ℕ) : List (Cx ℝ) := List.replicate n czero

theorem length_addRows (xs ys : List (Cx ℝ)) (h : xs.length = ys.length) : (addRows xs ys).length = xs.length := by
  simp [addRows, h]

theorem nth_addRows (xs ys : List (Cx ℝ)) (h : xs.length = ys.length) (j : ℕ) (hj : j < xs.length) :
    nth (addRows xs ys) j = nth xs j + nth ys j := by
  rw [nth_eq_getElem _ _ (by rw [length_addRows xs ys h]; exact hj), nth_eq_getElem _ _ hj,
    nth_eq_getElem _ _ (by rw [← h]; exact hj)]
  simp [addRows]

theorem length_scaleRow (c : Cx ℝ) (xs : List (Cx ℝ)) : (scaleRow c xs).length = xs.length := List.length_map _

theorem nth_scaleRow (c : Cx ℝ) (xs : List (Cx ℝ)) (j : ℕ) (hj : j < xs.length) :
    nth (scaleRow c xs) j = c * nth xs j := by
  rw [nth_eq_getElem _ _ (by simpa [scaleRow] using hj), nth_eq_getElem _ _ hj]
  simp [scaleRow]

theorem length_zeroRow (n : ℕ) : (zeroRow n).length = n := List.length_replicate

theorem nth_zeroRow (n j : ℕ) : nth (zeroRow n) j = czero := by
  unfold nth zeroRow
  by_cases hj : j < n <;> simp [hj]

theorem sumSq_zeroRow (n : ℕ) : sumSq (zeroRow n) = 0 := by
  simp [sumSq_eq_map_sum, zeroRow, normSq_czero]

section
variable {T : (ℕ → Cx ℝ) → ℕ → ℕ → Cx ℝ} {K : ℕ → ℕ → ℕ → ℂ}

theorem rowT_add (hT : IsSum T K) (xs ys : List (Cx ℝ)) (h : xs.length = ys.length) :
    rowT T (addRows xs ys) = addRows (rowT T xs) (rowT T ys) := by
  apply List.ext_getElem
  · simp [addRows, length_rowT]
  · intro k _ _
    rw [getElem_rowT, length_addRows xs ys h, hT.congr (nth_addRows xs ys h), hT.add]
    simp only [addRows, List.getElem_zipWith, getElem_rowT, h]

theorem rowT_scale (hT : IsSum T K) (c : Cx ℝ) (xs : List (Cx ℝ)) :
    rowT T (scaleRow c xs) = scaleRow c (rowT T xs) := by
  apply List.ext_getElem
  · simp [scaleRow, length_rowT]
  · intro k _ _
    rw [getElem_rowT, length_scaleRow, hT.congr (nth_scaleRow c xs), hT.smul]
    simp only [scaleRow, List.getElem_map, getElem_rowT]

theorem rowT_zeroRow (hT : IsSum T K) (n : ℕ) : rowT T (zeroRow n) = zeroRow n := by
  apply List.ext_getElem
  · simp [length_rowT]
  · intro k _ _
    rw [getElem_rowT, hT.congr (fun j _ => nth_zeroRow n j), hT.zero]
    simp only [zeroRow, List.getElem_replicate]

end

theorem dft_add (xs ys : List (Cx ℝ)) (h : xs.length = ys.length) :
    dft (addRows xs ys) = addRows (dft xs) (dft ys) := rowT_add toC_dftAt xs ys h

theorem idft_add (xs ys : List (Cx ℝ)) (h : xs.length = ys.length) :
    idft (addRows xs ys) = addRows (idft xs) (idft ys) := rowT_add toC_idftAt xs ys h

theorem dft_zeroRow (n : ℕ) : dft (zeroRow n) = zeroRow n := rowT_zeroRow toC_dftAt n

theorem idft_zeroRow (n : ℕ) : idft (zeroRow n) = zeroRow n := rowT_zeroRow toC_idftAt n

theorem rot_addRows (k : ℕ) (a b : List (Cx ℝ)) (h : a.length = b.length) :
    rot k (addRows a b) = addRows (rot k a) (rot k b) := by
  simp only [addRows, rot_eq_rotate, List.zipWith_rotate_distrib _ a b k h]

theorem fftshift_addRows (a b : List (Cx ℝ)) (h : a.length = b.length) :
    fftshift (addRows a b) = addRows (fftshift a) (fftshift b) := by
  rw [fftshift, length_addRows a b h, rot_addRows _ a b h, fftshift, fftshift, ← h]

theorem ifftshift_addRows (a b : List (Cx ℝ)) (h : a.length = b.length) :
    ifftshift (addRows a b) = addRows (ifftshift a) (ifftshift b) := by
  rw [ifftshift, length_addRows a b h, rot_addRows _ a b h, ifftshift, ifftshift, ← h]

theorem fftshift_zeroRow (n : ℕ) : fftshift (zeroRow n) = zeroRow n := rot_replicate _ _ _

theorem ifftshift_zeroRow (n : ℕ) : ifftshift (zeroRow n) = zeroRow n := rot_replicate _ _ _

end OptiVerif.Fourier
