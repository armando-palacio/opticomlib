/-
Helper lemmas for C20 (SYNC) about the waveform `np.kron(slots, ones(sps))`, for samples of any type.
-/
import Mathlib.Data.List.Rotate
import OptiVerif.Model.PpgSync
import OptiVerif.Lemmas.Blocks

namespace OptiVerif.Sync

variable {α : Type}

theorem kron_cons (b : α) (tx : List α) (sps : Nat) :
    kron (b :: tx) sps = List.replicate sps b ++ kron tx sps := by
  simp [kron]

theorem kron_len (tx : List α) (sps : Nat) : (kron tx sps).length = tx.length * sps :=
  length_flatMap_block _ sps tx fun _ _ => List.length_replicate

theorem mem_kron {tx : List α} {sps : Nat} {x : α} (hx : x ∈ kron tx sps) : x ∈ tx := by
  unfold kron at hx
  simp only [List.mem_flatMap, List.mem_replicate] at hx
  obtain ⟨b, hb, _, rfl⟩ := hx
  exact hb

theorem kron_getElem? (sps : Nat) (hs : 0 < sps) (tx : List α) (j : Nat) : (kron tx sps)[j]? = tx[j / sps]? := by
  conv_lhs => rw [← Nat.div_add_mod' j sps]
  rw [kron, getElem?_flatMap_block _ sps (fun _ => List.length_replicate) tx _ _ (Nat.mod_lt j hs)]
  cases tx[j / sps]? with
  | none => rfl
  | some b => exact List.getElem?_replicate.trans (if_pos (Nat.mod_lt j hs))

/-- seen from sample `t` of a slot, a rotation of the waveform by `m` samples is one of the pattern by `(t + m) / sps` -/
theorem rotate_kron_slots (tx : List α) (sps m : Nat) (hs : 0 < sps)
    (h : (kron tx sps).rotate m = kron tx sps) (t : Nat) (ht : t < sps) : tx.rotate ((t + m) / sps) = tx := by
  apply List.ext_getElem?
  intro k
  by_cases hk : k < tx.length
  · have hj : k * sps + t < (kron tx sps).length := by
      rw [kron_len]
      exact mul_add_lt_mul hk ht
    have e : ((kron tx sps).rotate m)[k * sps + t]? = (kron tx sps)[k * sps + t]? := by rw [h]
    rwa [List.getElem?_rotate hj, kron_getElem? sps hs, kron_getElem? sps hs, kron_len, Nat.mod_mul_left_div_self,
      Nat.add_assoc, Nat.mul_comm k, Nat.mul_add_div hs, Nat.mul_add_div hs, Nat.div_eq_of_lt ht,
      ← List.getElem?_rotate hk] at e
  · rw [List.getElem?_eq_none (by rw [List.length_rotate]; omega), List.getElem?_eq_none (by omega)]

end OptiVerif.Sync
