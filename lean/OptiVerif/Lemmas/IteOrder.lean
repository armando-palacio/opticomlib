/-
`abs` and `min` spelt with `if`.  The models transcribe `np.abs` as `if x < 0 then -x else x` (`Quant.absR`, `Gen.DacLimits.ratAbs`,
`NumList.absR`, `Conv.abs`) and `np.min` as a left fold of `if y < m then y else m` (`Quant.minList`, `Ber.minL`); both are
Mathlib's.
-/
import Mathlib.Algebra.Order.Group.Abs
import Mathlib.Order.Lattice

namespace OptiVerif

theorem ite_neg_eq_abs {α : Type} [AddCommGroup α] [LinearOrder α] [IsOrderedAddMonoid α] (x : α) :
    (if x < 0 then -x else x) = |x| := by
  split_ifs with h
  · exact (abs_of_neg h).symm
  · exact (abs_of_nonneg (not_lt.mp h)).symm

theorem foldl_ite_eq_min? {α : Type} [LinearOrder α] (x : α) (xs : List α) :
    some (xs.foldl (fun m y => if y < m then y else m) x) = (x :: xs).min? := by
  have : (fun m y : α => if y < m then y else m) = min := by funext m y; rw [min_comm, min_def_lt]
  rw [this]
  rfl

end OptiVerif
