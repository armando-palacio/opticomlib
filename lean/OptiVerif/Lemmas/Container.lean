/-
Slices, integer indices, domain transforms and programs of the container model: each operation is a candidate object
(`Sig.mapL`) and a condition for its contract.
-/
import OptiVerif.Lemmas.ContainerOps
import OptiVerif.Lemmas.ContainerSlice

namespace OptiVerif.Container
open OptiVerif.Wire (Err)

variable {α : Type}

/-- the only fact about the per-row transform the container theorems need: it keeps the row length -/
class LawfulXform (α : Type) [Xform α] : Prop where
  length_row : ∀ (d : Fourier.Dom) (sh : Bool) (xs : List α), (Xform.row d sh xs).length = xs.length

/-- the candidate result of a slice (`f = pick idx`), an integer index (`pick [k]`), `copy`, and the domain transform
    (`f = Xform.row d shift`) -/
def Sig.mapL (a : Sig α) (dt : DType) (f : List α → List α) : Sig α :=
  ⟨a.cls, a.sig.count, dt, a.sig.mapL f, a.noise.map (Rows.mapL f)⟩

theorem construct_mapL [DropIm α] (a : Sig α) (dt : DType) (f : List α → List α) :
    construct a.cls (arr dt (a.sig.mapL f)) (a.noise.map fun n => arr dt (n.mapL f)) none = build (a.mapL dt f) := by
  have h := construct_arr_none a.cls dt (a.sig.mapL f) (a.noise.map (Rows.mapL f))
  rwa [Option.map_map, Rows.count_mapL] at h

theorem Sig.mapL_wf {a : Sig α} (ha : WF a) (dt : DType) {f : List α → List α} {m : Nat}
    (hf : ∀ xs : List α, xs.length = a.len → (f xs).length = m) :
    (a.mapL dt f).len = m ∧ (WF (a.mapL dt f) ↔ 1 ≤ m) := by
  obtain ⟨hl, hv⟩ := Rows.mapL_shape ha.valid hf
  refine ⟨hl, fun w => hv.1 w.valid, fun hm => ⟨hv.2 hm, ?_, (Rows.count_mapL f a.sig).symm, ?_⟩⟩
  · intro n hn
    obtain ⟨nz, hnz, rfl⟩ := Option.map_eq_some_iff.1 hn
    obtain ⟨v, c, l⟩ := ha.noise_shape nz hnz
    obtain ⟨hl', hv'⟩ := Rows.mapL_shape v (f := f) (m := m) (by rw [l]; exact hf)
    exact ⟨hv'.2 hm, (Rows.count_mapL f nz).trans (c.trans (Rows.count_mapL f a.sig).symm), hl'.trans hl.symm⟩
  · exact fun hE => (Rows.count_mapL f a.sig).trans (ha.elec_one hE)

theorem Sig.mapL_of_fix {a : Sig α} (ha : WF a) (dt : DType) {f : List α → List α}
    (hf : ∀ xs : List α, xs.length = a.len → f xs = xs) :
    a.mapL dt f = ⟨a.cls, a.sig.count, dt, a.sig, a.noise⟩ := by
  unfold Sig.mapL
  rw [Rows.mapL_of_fix ha.valid hf]
  cases hn : a.noise with
  | none => rfl
  | some n =>
    obtain ⟨v, -, l⟩ := ha.noise_shape n hn
    rw [Option.map_some, Rows.mapL_of_fix v (by rw [l]; exact hf)]

theorem Sig.mapL_pick {a : Sig α} (ha : WF a) {idx : List Nat} (hin : ∀ i ∈ idx, i < a.len) :
    (a.mapL a.dt (pick idx)).len = idx.length ∧ (WF (a.mapL a.dt (pick idx)) ↔ 1 ≤ idx.length) :=
  Sig.mapL_wf ha _ fun _ hx => pick_length (by rwa [hx])

theorem getSlice_eq [DropIm α] (a : Sig α) (st sp step : Option Int) :
    getSlice a st sp step =
      match sliceIdx st sp step a.len with
      | .error e => .error e
      | .ok idx => build (a.mapL a.dt (pick idx)) := by
  unfold getSlice
  cases sliceIdx st sp step a.len with
  | error e => rfl
  | ok idx => exact construct_mapL a a.dt (pick idx)

theorem getSlice_raises [DropIm α] (a : Sig α) (st sp step : Option Int) :
    Raises (· = Err.ValueError) (getSlice a st sp step) := by
  rw [getSlice_eq]
  cases hi : sliceIdx st sp step a.len with
  | error e => exact .error (sliceIdx_error hi)
  | ok idx => exact build_raises _

theorem getSlice_ok_iff [DropIm α] {a s : Sig α} {st sp step : Option Int} (ha : WF a) :
    getSlice a st sp step = .ok s ↔
      ∃ idx, sliceIdx st sp step a.len = .ok idx ∧ 1 ≤ idx.length ∧ s = a.mapL a.dt (pick idx) := by
  rw [getSlice_eq]
  cases hi : sliceIdx st sp step a.len with
  | error e => simp
  | ok idx =>
    obtain ⟨-, hw⟩ := Sig.mapL_pick ha (sliceIdx_lt hi)
    constructor
    · intro h
      obtain ⟨rfl, w⟩ := build_ok h
      exact ⟨idx, rfl, hw.1 w, rfl⟩
    · rintro ⟨idx', h', hne, rfl⟩
      injection h' with h'; subst h'
      exact build_of (hw.2 hne)

theorem getIdx_eq [DropIm α] {a : Sig α} (ha : WF a) (i : Int) :
    getIdx a i = match normIdx i a.len with
      | none => .error .Other
      | some k => .ok (a.mapL a.dt (pick [k])) := by
  unfold getIdx
  cases hk : normIdx i a.len with
  | none => rfl
  | some k =>
    have hklt := (normIdx_spec hk).1
    have w : WF (a.mapL a.dt (pick [k])) := (Sig.mapL_pick ha (by simpa using hklt)).2.2 (Nat.le_refl 1)
    obtain ⟨cls, npol, dt, sig, noise⟩ := a
    obtain ⟨hv, hns, -, -⟩ := ha
    simp only [Sig.len] at *
    -- the two one-row cases go through 0-d scalars, the two two-row cases through arrays of shape (2,1)
    cases sig with
    | one xs =>
      simp only [Rows.len] at hklt
      cases noise with
      | none =>
        simpa [sampleAt, hklt, Sig.mapL, Rows.mapL, Rows.count, pick_single] using
          construct_scalar cls false dt xs[k] none
      | some n =>
        obtain ⟨-, hc, hl⟩ := hns n rfl
        cases n with
        | two n1 n2 => cases hc
        | one ns =>
          have hk2 : k < ns.length := by simp only [Rows.len] at hl; omega
          simpa [sampleAt, hklt, hk2, Sig.mapL, Rows.mapL, Rows.count, pick_single] using
            construct_scalar cls false dt xs[k] (some ns[k])
    | two xs ys =>
      rw [← build_of w]
      simp only [Rows.len, Rows.Valid] at hklt hv
      have hky : k < ys.length := by omega
      cases noise with
      | none =>
        simpa [sampleAt, hklt, hky, Sig.mapL, Rows.mapL, Rows.count, pick_single, arr, Rows.toData] using
          construct_arr_none cls dt (.two [xs[k]] [ys[k]]) none
      | some n =>
        obtain ⟨hnv, hc, hl⟩ := hns n rfl
        cases n with
        | one ns => cases hc
        | two n1 n2 =>
          simp only [Rows.len, Rows.Valid] at hl hnv
          have hk3 : k < n1.length := by omega
          have hk4 : k < n2.length := by omega
          simpa [sampleAt, hklt, hky, hk3, hk4, Sig.mapL, Rows.mapL, Rows.count, pick_single, arr, Rows.toData] using
            construct_arr_none cls dt (.two [xs[k]] [ys[k]]) (some (.two [n1[k]] [n2[k]]))

theorem getIdx_ok_iff [DropIm α] {a s : Sig α} {i : Int} (ha : WF a) :
    getIdx a i = .ok s ↔ ∃ k, normIdx i a.len = some k ∧ s = a.mapL a.dt (pick [k]) := by
  rw [getIdx_eq ha]
  cases normIdx i a.len <;> simp [eq_comm]

theorem transform_eq [DropIm α] [Xform α] (a : Sig α) (d : Fourier.Dom) (sh : Bool) :
    transform a (some d) sh = build (a.mapL .complex (Xform.row d sh)) :=
  construct_mapL a .complex (Xform.row d sh)

theorem transform_ok [DropIm α] [Xform α] {a s : Sig α} {d : Option Fourier.Dom} {sh : Bool}
    (h : transform a d sh = .ok s) : WF s ∧ ∃ d', d = some d' ∧ s = a.mapL .complex (Xform.row d' sh) := by
  cases d with
  | none => cases h
  | some d' =>
    rw [transform_eq] at h
    exact ⟨(build_ok h).2, d', rfl, (build_ok h).1⟩

theorem transform_error [DropIm α] [Xform α] {a : Sig α} {d : Option Fourier.Dom} {sh : Bool} {e : Err}
    (h : transform a d sh = .error e) : e = .ValueError := by
  cases d with
  | none =>
    cases h
    rfl
  | some d' =>
    rw [transform_eq] at h
    exact (build_raises _).elim h

theorem transform_spec [DropIm α] [Xform α] [LawfulXform α] {a : Sig α} (ha : WF a) (d : Fourier.Dom) (sh : Bool) :
    ∃ s, transform a (some d) sh = .ok s ∧ WF s ∧ s.cls = a.cls ∧ s.npol = a.npol ∧ s.sig.count = a.sig.count ∧
      s.len = a.len ∧ s.noise.isSome = a.noise.isSome ∧ s.dt = .complex := by
  obtain ⟨hl, hw⟩ := Sig.mapL_wf ha .complex (f := Xform.row d sh) (m := a.len)
    fun xs hx => by rw [LawfulXform.length_row, hx]
  have w := hw.2 (Rows.len_pos ha.valid)
  exact ⟨_, (transform_eq a d sh).trans (build_of w), w, rfl, ha.npol_rows.symm, Rows.count_mapL _ _, hl,
    Option.isSome_map, rfl⟩

/-- polarisation count of the object a non-object operand is converted to -/
def convPol (c : Cls) (r : Raw α) : Nat :=
  match c with
  | .E => 1
  | .O => rawPol r.data none

/-- for a variable outside the environment the value is arbitrary (`eval` fails there) -/
def sCls (ρ : Env α) : Expr α → Cls
  | .var i => match ρ[i]? with | some s => s.cls | none => .E
  | .mkE _ _ _ => .E
  | .mkO _ _ _ _ => .O
  | .add a _ | .sub a _ | .mul a _ => sCls ρ a
  | .addR a _ | .raddR a _ | .subR a _ | .rsubR a _ | .mulR a _ | .rmulR a _ => sCls ρ a
  | .idx a _ | .slice a _ _ _ | .copy a _ | .transform a _ _ => sCls ρ a

def sPol (ρ : Env α) : Expr α → Nat
  | .var i => match ρ[i]? with | some s => s.npol | none => 0
  | .mkE _ _ _ => 1
  | .mkO s _ p _ => rawPol s.data p
  | .add a b | .sub a b | .mul a b => Nat.max (sPol ρ a) (sPol ρ b)
  | .addR a r | .raddR a r | .subR a r | .rsubR a r | .mulR a r | .rmulR a r =>
    Nat.max (sPol ρ a) (convPol (sCls ρ a) r)
  | .idx a _ | .slice a _ _ _ | .copy a _ | .transform a _ _ => sPol ρ a

def sLen (ρ : Env α) : Expr α → Nat
  | .var i => match ρ[i]? with | some s => s.len | none => 0
  | .mkE s _ _ => s.data.lastDim
  | .mkO s _ _ _ => s.data.lastDim
  | .add a _ | .sub a _ | .mul a _ => sLen ρ a
  | .addR a _ | .raddR a _ | .subR a _ | .rsubR a _ | .mulR a _ | .rmulR a _ => sLen ρ a
  | .idx _ _ => 1
  | .slice a st sp step => sliceLen st sp step (sLen ρ a)
  | .copy a n => sliceLen none (some (n.getD (sLen ρ a))) none (sLen ρ a)
  | .transform a _ _ => sLen ρ a

theorem convert_pol [DropIm α] {c : Cls} {r : Raw α} {o : Sig α} (h : convert c r = .ok o) :
    o.npol = convPol c r :=
  (mkCls_spec ((construct_eq c r none none).symm.trans h)).2.2.1

theorem bind1_ok {x : Except Err (Sig α)}
    {f : Sig α → Except Err (Sig α)} {s : Sig α} (h : bind1 x f = .ok s) : ∃ a, x = .ok a ∧ f a = .ok s :=
  Except.bind_eq_ok.1 (by cases x <;> exact h)

theorem bind2_ok {x y : Except Err (Sig α)}
    {f : Sig α → Sig α → Except Err (Sig α)} {s : Sig α} (h : bind2 x y f = .ok s) :
    ∃ a b, x = .ok a ∧ y = .ok b ∧ f a b = .ok s := by
  obtain ⟨a, hx, h⟩ := bind1_ok (f := fun a => bind1 y (f a)) h
  obtain ⟨b, hy, h⟩ := bind1_ok h
  exact ⟨a, b, hx, hy, h⟩

/-- The static type of a value: contract, class `C`, polarisation count `P`, length `L`.  The class `LawfulXform α` is
    used as a plain hypothesis of the length clause, the only one that needs it (`eval_wf` of C01 holds without); the
    nodes that consume it are `.transform` and, through its stop, `.copy`. -/
structure Sig.HasType [Xform α] (x : Sig α) (C : Cls) (P L : Nat) : Prop where
  wf : WF x
  cls : x.cls = C
  npol : x.npol = P
  len : LawfulXform α → x.len = L

section
variable [DropIm α] [Xform α] {C : Cls} {P L : Nat} {x s : Sig α} (hx : x.HasType C P L)
include hx

theorem objop_hasType {op : OpSpec α} (hstd : op.Std) {C' : Cls} {Q L' : Nat} {y : Sig α}
    (hy : y.HasType C' Q L') (h : objop op x y = .ok s) : s.HasType C (Nat.max P Q) L := by
  obtain ⟨wx, rfl, rfl, lx⟩ := hx
  obtain ⟨wy, -, rfl, -⟩ := hy
  have hb := objop_ok h
  obtain ⟨hs, w⟩ := binop_wf hb
  exact ⟨w, by rw [hs]; rfl, binop_npol wx wy hb, fun hX => (binop_len hstd hb).trans (lx hX)⟩

theorem rawop_hasType {op : OpSpec α} (hstd : op.Std) {r : Raw α} (h : rawop op x r = .ok s) :
    s.HasType C (Nat.max P (convPol C r)) L := by
  obtain ⟨wx, rfl, rfl, lx⟩ := hx
  obtain ⟨o, hc, wo, hb⟩ := rawop_ok h
  obtain ⟨hs, w⟩ := binop_wf hb
  exact ⟨w, by rw [hs]; rfl, by rw [binop_npol wx wo hb, convert_pol hc],
    fun hX => (binop_len hstd hb).trans (lx hX)⟩

theorem getSlice_hasType {st sp step : Option Int} (h : getSlice x st sp step = .ok s) :
    s.HasType C P (sliceLen st sp step L) := by
  obtain ⟨wx, rfl, rfl, lx⟩ := hx
  obtain ⟨idx, hi, hne, rfl⟩ := (getSlice_ok_iff wx).1 h
  obtain ⟨l, w⟩ := Sig.mapL_pick wx (sliceIdx_lt hi)
  exact ⟨w.2 hne, rfl, wx.npol_rows.symm, fun hX => by rw [l, sliceIdx_length hi, lx hX]⟩

theorem getIdx_hasType {i : Int} (h : getIdx x i = .ok s) : s.HasType C P 1 := by
  obtain ⟨wx, rfl, rfl, -⟩ := hx
  obtain ⟨k, hk, rfl⟩ := (getIdx_ok_iff wx).1 h
  obtain ⟨l, w⟩ := Sig.mapL_pick wx (idx := [k]) (by simpa using (normIdx_spec hk).1)
  exact ⟨w.2 (Nat.le_refl 1), rfl, wx.npol_rows.symm, fun _ => l⟩

theorem transform_hasType {d : Option Fourier.Dom} {sh : Bool} (h : transform x d sh = .ok s) :
    s.HasType C P L := by
  obtain ⟨wx, rfl, rfl, lx⟩ := hx
  obtain ⟨w, d', -, rfl⟩ := transform_ok h
  exact ⟨w, rfl, wx.npol_rows.symm, fun hX =>
    (Sig.mapL_wf wx _ fun xs hxs => (hX.length_row _ _ xs).trans hxs).1.trans (lx hX)⟩

end

theorem eval_spec [Add α] [Sub α] [Neg α] [Mul α] [DropIm α] [Xform α] (ρ : Env α) (hρ : ∀ x ∈ ρ, WF x)
    (e : Expr α) {s : Sig α} (h : eval ρ e = .ok s) :
    s.HasType (sCls ρ e) (sPol ρ e) (sLen ρ e) := by
  induction e generalizing s with
  | var i =>
    simp only [eval] at h
    cases hi : ρ[i]? with
    | none => simp [hi] at h
    | some x =>
      simp only [hi] at h
      injection h with h; subst h
      exact ⟨hρ x (List.mem_of_getElem? hi), by simp [sCls, hi], by simp [sPol, hi], fun _ => by simp [sLen, hi]⟩
  | mkE sg n d =>
    obtain ⟨w, c, p, l, -⟩ := mkE_spec h
    exact ⟨w, c, p, fun _ => l⟩
  | mkO sg n p d =>
    obtain ⟨w, c, p, l, -⟩ := mkO_spec h
    exact ⟨w, c, p, fun _ => l⟩
  | add a b iha ihb =>
    obtain ⟨x, y, hx, hy, hf⟩ := bind2_ok h
    exact objop_hasType (iha hx) addSpec_std (ihb hy) hf
  | sub a b iha ihb =>
    obtain ⟨x, y, hx, hy, hf⟩ := bind2_ok h
    exact objop_hasType (iha hx) subSpec_std (ihb hy) hf
  | mul a b iha ihb =>
    obtain ⟨x, y, hx, hy, hf⟩ := bind2_ok h
    exact objop_hasType (iha hx) mulSpec_std (ihb hy) hf
  | addR a r iha | raddR a r iha =>
    obtain ⟨x, hx, hf⟩ := bind1_ok h
    exact rawop_hasType (iha hx) addSpec_std hf
  | subR a r iha =>
    obtain ⟨x, hx, hf⟩ := bind1_ok h
    exact rawop_hasType (iha hx) subSpec_std hf
  | rsubR a r iha =>
    obtain ⟨x, hx, hf⟩ := bind1_ok h
    exact rawop_hasType (iha hx) rsubSpec_std hf
  | mulR a r iha | rmulR a r iha =>
    obtain ⟨x, hx, hf⟩ := bind1_ok h
    exact rawop_hasType (iha hx) mulSpec_std hf
  | idx a i iha =>
    obtain ⟨x, hx, hf⟩ := bind1_ok h
    exact getIdx_hasType (iha hx) hf
  | slice a st sp step iha =>
    obtain ⟨x, hx, hf⟩ := bind1_ok h
    exact getSlice_hasType (iha hx) hf
  | copy a n iha =>
    obtain ⟨x, hx, hf⟩ := bind1_ok h
    obtain ⟨w, c, p, l⟩ := getSlice_hasType (iha hx) hf
    exact ⟨w, c, p, fun hX => by rw [l hX, (iha hx).len hX]; rfl⟩
  | transform a d sh iha =>
    obtain ⟨x, hx, hf⟩ := bind1_ok h
    exact transform_hasType (iha hx) hf

end OptiVerif.Container
