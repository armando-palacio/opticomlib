/-
Helper lemmas for C20 (SYNC), over any linearly ordered commutative ring `R`, said about `corrAt x w i`, the entries of
`corr x w`.  The clean records peak at the delay because `0 < ‖u − v‖²` for a rotated waveform `u ≠ v`.
-/
import Mathlib.Data.List.Rotate
import Mathlib.Tactic.Linarith
import Mathlib.Tactic.Ring
import OptiVerif.Model.PpgSync
import OptiVerif.Lemmas.Argmax
import OptiVerif.Lemmas.Guard

namespace OptiVerif.Sync

variable {R : Type} [CommRing R] [LinearOrder R] [IsStrictOrderedRing R]

/-- the correlation value at lag `i` (what `corr` lists for the valid lags) -/
def corrAt (x w : List R) (i : Nat) : R := dot ((x.take (2 * w.length - 1)).drop i) w

@[simp] theorem dot_nil_left (v : List R) : dot [] v = 0 := by unfold dot; rfl
theorem dot_nil_right (u : List R) : dot u [] = 0 := by cases u <;> (unfold dot; rfl)
theorem dot_cons (a b : R) (u v : List R) : dot (a :: u) (b :: v) = a * b + dot u v := by
  rw [dot]

theorem dot_take : ∀ (u w : List R), dot (u.take w.length) w = dot u w
  | [], w => by rw [List.take_nil]
  | a :: u, [] => by rw [dot_nil_right, dot_nil_right]
  | a :: u, b :: w => by
    simp only [List.length_cons, List.take_succ_cons, dot_cons, dot_take u w]

theorem dot_self_append : ∀ (u v : List R), dot (u ++ v) (u ++ v) = dot u u + dot v v
  | [], v => by rw [List.nil_append, dot_nil_left, zero_add]
  | a :: u, v => by
    simp only [List.cons_append, dot_cons, dot_self_append u v]; ring

theorem dot_self_nonneg : ∀ (u : List R), 0 ≤ dot u u
  | [] => le_of_eq (dot_nil_left _).symm
  | a :: u => by
    rw [dot_cons]
    exact add_nonneg (mul_self_nonneg a) (dot_self_nonneg u)

/-- `0 ≤ ‖u − v‖²`, also for lists of different lengths (`dot` stops at the shorter one) -/
theorem two_dot_le : ∀ (u v : List R), 2 * dot u v ≤ dot u u + dot v v
  | [], v => by
    rw [dot_nil_left, dot_nil_left, mul_zero, zero_add]
    exact dot_self_nonneg v
  | a :: u, [] => by
    rw [dot_nil_right, dot_nil_right, mul_zero, add_zero]
    exact dot_self_nonneg _
  | a :: u, b :: v => by
    have ih := two_dot_le u v
    simp only [dot_cons]
    linarith [mul_self_nonneg (a - b)]

theorem two_dot_lt : ∀ (u v : List R), u.length = v.length → u ≠ v → 2 * dot u v < dot u u + dot v v
  | [], [], _, hne => absurd rfl hne
  | [], _ :: _, h, _ => nomatch h
  | _ :: _, [], h, _ => nomatch h
  | a :: u, b :: v, h, hne => by
    simp only [dot_cons]
    by_cases hab : a = b
    · have ih := two_dot_lt u v (Nat.succ.inj h) fun e => hne (by rw [hab, e])
      linarith [mul_self_nonneg (a - b)]
    · have ih := two_dot_le u v
      linarith [mul_self_pos.mpr (sub_ne_zero.mpr hab)]

theorem dot_self_rotate (w : List R) (n : Nat) : dot (w.rotate n) (w.rotate n) = dot w w := by
  rw [List.rotate_eq_drop_append_take_mod, dot_self_append, add_comm, ← dot_self_append, List.take_append_drop]

theorem dot_rotate_lt (w : List R) (m : Nat) (h : w.rotate m ≠ w) : dot (w.rotate m) w < dot w w := by
  have := two_dot_lt (w.rotate m) w (List.length_rotate w m) h
  rw [dot_self_rotate, ← two_mul] at this
  exact lt_of_mul_lt_mul_left this zero_le_two

theorem dot_rotate_le (w : List R) (m : Nat) : dot (w.rotate m) w ≤ dot w w := by
  have := two_dot_le (w.rotate m) w
  rw [dot_self_rotate, ← two_mul] at this
  exact le_of_mul_le_mul_left this zero_lt_two

theorem dot_le_dot : ∀ {u v : List R} (w : List R), List.Forall₂ (· ≤ ·) u v → (∀ x ∈ w, 0 ≤ x) → dot u w ≤ dot v w
  | _, _, _, .nil, _ => le_refl _
  | _, _, [], .cons _ _, _ => by rw [dot_nil_right, dot_nil_right]
  | _, _, c :: w, .cons hab h, hw => by
    rw [dot_cons, dot_cons]
    exact add_le_add (mul_le_mul_of_nonneg_right hab (hw c List.mem_cons_self))
      (dot_le_dot w h fun x hx => hw x (List.mem_cons_of_mem _ hx))

theorem corr_eq_map (x w : List R) :
    corr x w = (List.range ((x.take (2 * w.length - 1)).length - w.length + 1)).map (corrAt x w) := rfl

theorem corr_length (x w : List R) (hw : 0 < w.length) (h : 2 * w.length ≤ x.length) :
    (corr x w).length = w.length := by
  rw [corr_eq_map, List.length_map, List.length_range, List.length_take]
  omega

theorem getElem_corr (x w : List R) (i : Nat) (h : i < (corr x w).length) : (corr x w)[i] = corrAt x w i := by
  simp only [corr_eq_map, List.getElem_map, List.getElem_range]

theorem corrAt_append_left (p q x w : List R) (h : p.length = q.length) (i : Nat) (hi : p.length ≤ i) :
    corrAt (p ++ x) w i = corrAt (q ++ x) w i := by
  unfold corrAt
  rw [List.drop_take, List.drop_take, List.drop_append, List.drop_append, List.drop_of_length_le (l := p) hi,
    List.drop_of_length_le (l := q) (h ▸ hi), h]

/-- `v` is there so that a caller can name the peak value it has computed -/
theorem lagW_of_peak {rx w : List R} {d : Nat} {v : R} (hl : w.length ≤ rx.length) (hw : 0 < w.length)
    (hd : d < (corr rx w).length) (hv : corrAt rx w d = v)
    (h : ∀ i, i < (corr rx w).length → i ≠ d → corrAt rx w i < v) : lagW rx w = .ok d := by
  subst hv
  unfold lagW
  rw [if_neg (by omega), if_neg (by omega),
    argmax_unique _ d hd fun i hi hne => by rw [getElem_corr, getElem_corr]; exact h i hi hne]

theorem syncW_eq_of_lagW {rx w : List R} {d : Nat} (h : lagW rx w = .ok d) :
    ∃ mx, argmax (corr rx w) = some (d, mx) ∧
      syncW rx w = if rejects (corr rx w) mx then .error .ValueError
        else if ((rx.drop d).take (rx.length - w.length)).isEmpty then .error .ValueError
        else .ok ⟨d, (rx.drop d).take (rx.length - w.length)⟩ := by
  unfold lagW at h
  obtain ⟨h1, h⟩ := ite_error_eq_ok.mp h
  obtain ⟨h2, h⟩ := ite_error_eq_ok.mp h
  unfold syncW
  simp only
  rw [if_neg h1, if_neg h2]
  cases ha : argmax (corr rx w) with
  | none =>
    rw [ha] at h
    cases h
  | some p =>
    rw [ha] at h
    obtain rfl := Except.ok.inj h
    exact ⟨p.2, rfl, rfl⟩

theorem syncW_of_lagW {rx w : List R} {d : Nat} (h : lagW rx w = .ok d) :
    (∃ o, syncW rx w = .ok o ∧ o.index = d ∧ o.signal = (rx.drop d).take (rx.length - w.length)) ∨
      syncW rx w = .error .ValueError := by
  obtain ⟨mx, _, e⟩ := syncW_eq_of_lagW h
  rw [e]
  split_ifs
  · exact Or.inr rfl
  · exact Or.inr rfl
  · exact Or.inl ⟨_, rfl, rfl, rfl⟩

theorem lagW_eq_buffer_iff (rx w : List R) : lagW rx w = .error .Buffer ↔ rx.length < w.length := by
  unfold lagW
  by_cases h : rx.length < w.length
  · exact iff_of_true (if_pos h) h
  · refine iff_of_false ?_ h
    simp only [if_neg h]
    repeat' split
    all_goals simp

theorem syncW_eq_buffer_iff (rx w : List R) : syncW rx w = .error .Buffer ↔ rx.length < w.length := by
  unfold syncW
  by_cases h : rx.length < w.length
  · exact iff_of_true (if_pos h) h
  · refine iff_of_false ?_ h
    simp only [if_neg h]
    repeat' split
    all_goals simp

theorem window (s tail : List R) (i : Nat) (hi : i < s.length) :
    (((s ++ s ++ tail).take (2 * s.length - 1)).drop i).take s.length = s.rotate i := by
  have hl : 2 * s.length - 1 ≤ (s ++ s).length := by simp only [List.length_append]; omega
  rw [List.take_append_of_le_length hl, List.drop_take, List.take_take,
    List.drop_append_of_le_length (by omega), List.take_append,
    List.take_of_length_le (by simp only [List.length_drop]; omega), List.length_drop,
    List.rotate_eq_drop_append_take (by omega)]
  congr 2
  omega

/-- the waveform `w` repeated (two periods, then `tail`) and delayed by `d` samples: `rx[k] = w[(k − d) mod l]` -/
def delayed (w : List R) (d : Nat) (tail : List R) : List R :=
  w.rotate (w.length - d) ++ w.rotate (w.length - d) ++ tail

theorem delayed_eq (w tail : List R) (d : Nat) (hd : d ≤ w.length) :
    delayed w d tail = w.drop (w.length - d) ++ (w ++ (w.take (w.length - d) ++ tail)) := by
  unfold delayed
  conv_rhs => enter [2, 1]; rw [← List.take_append_drop (w.length - d) w]
  rw [List.rotate_eq_drop_append_take (by omega)]
  simp only [List.append_assoc]

theorem corrAt_periodic (s w tail : List R) (hl : s.length = w.length) (i : Nat) (hi : i < w.length) :
    corrAt (s ++ s ++ tail) w i = dot (s.rotate i) w := by
  unfold corrAt
  rw [← dot_take, ← hl, window s tail i (by rw [hl]; exact hi)]

theorem delay_add_mod_pos {l d i : Nat} (hd : d < l) (hi : i < l) (hne : i ≠ d) :
    0 < (l - d + i) % l ∧ (l - d + i) % l < l := by
  refine ⟨?_, Nat.mod_lt _ (Nat.zero_lt_of_lt hd)⟩
  rcases Nat.lt_or_gt_of_ne hne with h | h
  · rw [Nat.mod_eq_of_lt (by omega)]
    omega
  · rw [show l - d + i = i - d + l by omega, Nat.add_mod_right, Nat.mod_eq_of_lt (by omega)]
    omega

theorem corrAt_delayed (w tail : List R) (d i : Nat) (hi : i < w.length) :
    corrAt (delayed w d tail) w i =
      dot (w.rotate ((w.length - d + i) % w.length)) w := by
  rw [delayed, corrAt_periodic _ w tail (List.length_rotate _ _) i hi, List.rotate_rotate, List.rotate_mod]

theorem corrAt_delayed_peak (w tail : List R) (d : Nat) (hd : d < w.length) :
    corrAt (delayed w d tail) w d = dot w w := by
  rw [corrAt_delayed w tail d d hd, Nat.sub_add_cancel (le_of_lt hd), Nat.mod_self, List.rotate_zero]

theorem dot_delay_lt (w : List R) (d m : Nat) (hd : d < w.length) (hm : m < w.length) (hne : m ≠ d)
    (hap : ∀ k, 0 < k → k < w.length → w.rotate k ≠ w) :
    dot (w.rotate ((w.length - d + m) % w.length)) w < dot w w := by
  obtain ⟨hpos, hlt⟩ := delay_add_mod_pos hd hm hne
  exact dot_rotate_lt w _ (hap _ hpos hlt)

theorem corrAt_delayed_lt (w tail : List R) (d i : Nat) (hd : d < w.length) (hi : i < w.length) (hne : i ≠ d)
    (hap : ∀ k, 0 < k → k < w.length → w.rotate k ≠ w) :
    corrAt (delayed w d tail) w i < dot w w := by
  rw [corrAt_delayed w tail d i hi]
  exact dot_delay_lt w d i hd hi hne hap

theorem length_delayed (w tail : List R) (d : Nat) : 2 * w.length ≤ (delayed w d tail).length := by
  simp only [delayed, List.length_append, List.length_rotate]
  omega

theorem lagW_delayed (w tail : List R) (d : Nat) (hd : d < w.length)
    (hap : ∀ m, 0 < m → m < w.length → w.rotate m ≠ w) : lagW (delayed w d tail) w = .ok d := by
  have hl := length_delayed w tail d
  have hlen := corr_length _ w (by omega) hl
  exact lagW_of_peak (by omega) (by omega) (by omega) (corrAt_delayed_peak w tail d hd)
    fun i hi hne => corrAt_delayed_lt w tail d i hd (by omega) hne hap

theorem forall₂_replicate_zero : ∀ (D : List R), (∀ x ∈ D, 0 ≤ x) → List.Forall₂ (· ≤ ·) (List.replicate D.length 0) D
  | [], _ => .nil
  | a :: D, h => .cons (h a List.mem_cons_self) (forall₂_replicate_zero D fun x hx => h x (List.mem_cons_of_mem _ hx))

theorem lagW_zero_prefix (w tail : List R) (d : Nat) (hd : d < w.length) (hnn : ∀ x ∈ w, 0 ≤ x)
    (hap : ∀ m, 0 < m → m < w.length → w.rotate m ≠ w) :
    lagW (List.replicate d 0 ++ w ++ w ++ tail) w = .ok d := by
  -- With `D` the last `d` samples of `w`, `delayed w d (D ++ tail) = D ++ (w ++ w ++ tail)`: the present record with `D`
  -- for the zeros.  Lag by lag the present record correlates no better, and from lag `d` on the two agree.
  set D := w.drop (w.length - d)
  have hDl : D.length = d := by rw [List.length_drop]; omega
  have hP : delayed w d (D ++ tail) = D ++ (w ++ w ++ tail) := by
    rw [delayed_eq w _ d (le_of_lt hd), ← List.append_assoc _ D, List.take_append_drop, List.append_assoc]
  have hle : List.Forall₂ (· ≤ ·) (List.replicate d (0 : R) ++ (w ++ w ++ tail)) (D ++ (w ++ w ++ tail)) := by
    rw [← hDl]
    exact List.rel_append (forall₂_replicate_zero D fun x hx => hnn x (List.mem_of_mem_drop hx))
      (List.forall₂_same.mpr fun _ _ => le_refl _)
  have hpeak : corrAt (List.replicate d (0 : R) ++ (w ++ w ++ tail)) w d = dot w w := by
    rw [corrAt_append_left _ D _ w (by rw [List.length_replicate, hDl]) d (by rw [List.length_replicate]), ← hP,
      corrAt_delayed_peak w _ d hd]
  rw [show List.replicate d (0 : R) ++ w ++ w ++ tail = List.replicate d 0 ++ (w ++ w ++ tail) by
    simp only [List.append_assoc]]
  have hl : 2 * w.length ≤ (List.replicate d (0 : R) ++ (w ++ w ++ tail)).length := by
    simp only [List.length_append, List.length_replicate]
    omega
  have hlen := corr_length _ w (by omega) hl
  exact lagW_of_peak (by omega) (by omega) (by omega) hpeak fun i hi hne =>
    lt_of_le_of_lt (dot_le_dot w (List.forall₂_drop i (List.forall₂_take _ hle)) hnn)
      (hP ▸ corrAt_delayed_lt w _ d i hd (by omega) hne hap)

end OptiVerif.Sync
