/-
Lemmas for the binary_sequence model (C15).  Constructor and operators have one shape, read by `map_bind_ok` and
`map_bind_error`; the slice span is `PySlice.sliceNorm` with `PySlice.rangeLen` (`span_eq_sliceNorm`).
-/
import OptiVerif.Model.BinSeq
import OptiVerif.Lemmas.BinSeqStrErr
import OptiVerif.Lemmas.BinSeqStrBits
import OptiVerif.Lemmas.PySlice
import Mathlib.Data.List.Basic

namespace OptiVerif.BinSeq
open OptiVerif.BinSeqStr

/-- a valid stored sequence: every element is 0 or 1 -/
def Valid (l : List Nat) : Prop := ∀ x ∈ l, x = 0 ∨ x = 1

/-- the element map of `invert` (`~`) -/
def flip (x : Nat) : Nat := if x != 0 then 0 else 1

theorem valid_append {a b : List Nat} (ha : Valid a) (hb : Valid b) : Valid (a ++ b) :=
  List.forall_mem_append.mpr ⟨ha, hb⟩

theorem valid_of_append_right {a b : List Nat} (h : Valid (a ++ b)) : Valid b :=
  (List.forall_mem_append.mp h).2

theorem valid_map {α : Type} {f : α → Nat} (hf : ∀ x, f x = 0 ∨ f x = 1) (l : List α) : Valid (l.map f) :=
  List.forall_mem_map.mpr fun x _ => hf x

theorem all01_iff (l : List Nat) : l.all (fun x => x == 0 || x == 1) = true ↔ Valid l := by
  simp [Valid, List.all_eq_true]

theorem revalidate_ok_iff (l r : List Nat) : revalidate l = .ok r ↔ r = l ∧ Valid l := by
  unfold revalidate
  split
  · next h => simp [(all01_iff l).mp h, eq_comm]
  · next h => simp [mt (all01_iff l).mpr h]

theorem revalidate_of_valid {l : List Nat} (h : Valid l) : revalidate l = .ok l :=
  (revalidate_ok_iff l l).mpr ⟨rfl, h⟩

theorem valid_of_revalidate {l r : List Nat} (h : revalidate l = .ok r) : Valid r := by
  obtain ⟨rfl, hv⟩ := (revalidate_ok_iff l r).mp h
  exact hv

theorem revalidate_raises (l : List Nat) : Raises (· = .ValueError) (revalidate l) := .ite (.ok _) (.error rfl)

section
variable {ε α β : Type}

/-- `mk`, `operandBits` on data, `add` and `radd` all have the shape `x.map (·.bind f)` -/
theorem map_bind_ok {x : Option (Except ε α)} {f : α → Except ε β} {r : β} :
    x.map (·.bind f) = some (.ok r) ↔ ∃ a, x = some (.ok a) ∧ f a = .ok r := by
  rcases x with _ | _ | a <;> simp [Except.bind]

theorem map_bind_error {x : Option (Except ε α)} {f : α → Except ε β} {e : ε} :
    x.map (·.bind f) = some (.error e) ↔ x = some (.error e) ∨ ∃ a, x = some (.ok a) ∧ f a = .error e := by
  rcases x with _ | _ | a <;> simp [Except.bind]
end

theorem add_ok_iff {a : List Nat} {o : Operand} {r : List Nat} :
    add a o = some (.ok r) ↔ ∃ b, operandBits o = some (.ok b) ∧ r = a ++ b ∧ Valid (a ++ b) := by
  simp only [add, map_bind_ok, revalidate_ok_iff]

theorem radd_ok_iff {a : List Nat} {o : Operand} {r : List Nat} :
    radd a o = some (.ok r) ↔ ∃ b, operandBits o = some (.ok b) ∧ r = b ++ a ∧ Valid (b ++ a) := by
  simp only [radd, map_bind_ok, revalidate_ok_iff]

theorem bitNat_valid (c : Cell) : bitNat c = 0 ∨ bitNat c = 1 := by
  unfold bitNat
  rcases c with ⟨_ | _ | _, _⟩ <;> simp

theorem valid_map_bitNat (cs : List Cell) : Valid (cs.map bitNat) := valid_map bitNat_valid cs

theorem cellsOK_iff (cs : List Cell) : cellsOK cs = true ↔ ∀ c ∈ cs, c.bit.isSome = true := List.all_eq_true

theorem mkArr_scalar (c : Cell) :
    mkArr (.scalar c) = if c.bit.isSome = true then .ok [bitNat c] else .error .ValueError := by
  simp only [mkArr, cellsOK, List.all_cons, List.all_nil, Bool.and_true]
  cases c.bit.isSome <;> rfl

theorem mkArr_vec (cs : List Cell) :
    mkArr (.vec cs) = if (∀ c ∈ cs, c.bit.isSome = true) then .ok (cs.map bitNat) else .error .ValueError := by
  simp only [mkArr, ← cellsOK_iff]
  cases cellsOK cs <;> rfl

theorem mkArr_nd (d : Nat) (cs : List Cell) : mkArr (.nd d cs) = .error .ValueError := ite_self _

theorem mkArr_ok_iff (a : Arr) (bits : List Nat) :
    mkArr a = .ok bits ↔
      (∃ c, a = .scalar c ∧ c.bit.isSome ∧ bits = [bitNat c]) ∨
      (∃ cs, a = .vec cs ∧ (∀ c ∈ cs, c.bit.isSome) ∧ bits = cs.map bitNat) := by
  constructor
  · intro h
    cases a with
    | ragged => cases h
    | nd d cs => rw [mkArr_nd] at h; cases h
    | scalar c =>
      obtain ⟨hc, hb⟩ := ite_ok_inv (mkArr_scalar c ▸ h)
      exact .inl ⟨c, rfl, hc, hb.symm⟩
    | vec cs =>
      obtain ⟨hc, hb⟩ := ite_ok_inv (mkArr_vec cs ▸ h)
      exact .inr ⟨cs, rfl, hc, hb.symm⟩
  · rintro (⟨c, rfl, hc, rfl⟩ | ⟨cs, rfl, hc, rfl⟩)
    · rw [mkArr_scalar, if_pos hc]
    · rw [mkArr_vec, if_pos hc]

theorem mkArr_raises : (a : Arr) → Raises (· = .ValueError) (mkArr a)
  | .ragged => .error rfl
  | .scalar _ => .ite (.error rfl) (.ok _)
  | .vec _ => .ite (.error rfl) (.ok _)
  | .nd _ _ => .ite (.error rfl) (.error rfl)

theorem toArr_error {d : Data} {e : Wire.Err} (h : toArr d = some (.error e)) : e = .ValueError := by
  cases d with
  | arr a => cases h
  | str s =>
    simp only [toArr] at h
    split at h
    · cases h
    · next e0 hs =>
      cases h
      rcases str2array_err s e0 hs with rfl | rfl <;> rfl
    · cases h

theorem toArr_plain {s : List Nat} (h : Plain s) :
    toArr (.str s) = some (.ok (.vec ((s.filter keep).map cellOf))) := by
  simp only [toArr, str2array_plain s h, parsedToArr]

theorem operandBits_vec (cs : List Cell) :
    operandBits (.data (.arr (.vec cs))) =
      if (∀ c ∈ cs, c.bit.isSome = true) then some (.ok (cs.map bitNat)) else some (.error .ValueError) := by
  simp only [← cellsOK_iff]
  show some (if (!cellsOK cs) = true then _ else _) = _
  cases cellsOK cs <;> rfl

theorem operandBits_error {o : Operand} {e : Wire.Err} (ho : o ≠ .other) (h : operandBits o = some (.error e)) :
    e = .ValueError := by
  cases o with
  | other => exact absurd rfl ho
  | bs b => cases h
  | data d =>
    rcases map_bind_error.mp h with h | ⟨arr, -, h⟩
    · exact toArr_error h
    · refine Raises.elim (S := (· = .ValueError)) ?_ h
      exact match arr with
        | .ragged => .error rfl
        | .scalar _ => .ite (.error rfl) (.error rfl)
        | .vec _ => .ite (.error rfl) (.ok _)
        | .nd _ _ => .ite (.error rfl) (.error rfl)

theorem flip_flip {x : Nat} (h : x = 0 ∨ x = 1) : flip (flip x) = x := by
  rcases h with rfl | rfl <;> rfl

theorem valid_map_flip (a : List Nat) : Valid (a.map flip) := valid_map (fun _ => ite_eq_or_eq _ 0 1) a

theorem ones_map_flip {a : List Nat} (h : Valid a) : ones (a.map flip) + ones a = len a := by
  induction a with
  | nil => rfl
  | cons x t ih =>
    obtain ⟨hx, ht⟩ := List.forall_mem_cons.mp h
    have := ih ht
    simp only [ones, len, List.map_cons, List.sum_cons, List.length_cons] at this ⊢
    rcases hx with rfl | rfl
    · have : flip 0 = 1 := rfl
      omega
    · have : flip 1 = 0 := rfl
      omega

theorem zeros_eq_ones_flip {a : List Nat} (h : Valid a) : zeros a = ones (a.map flip) := by
  have := ones_map_flip h
  unfold zeros
  omega

theorem getInt_of_intPos {a : List Nat} {i : Int} {k : Nat} (hp : intPos a.length i = k) :
    getInt a i = match a[k]? with
      | some x => revalidate [x]
      | none => .error .Other := by
  unfold getInt
  rw [hp]
  split
  · rw [List.getElem?_eq_none (by omega)]
  · rfl

theorem getInt_of_intPos_lt {a : List Nat} (ha : Valid a) {i : Int} {k : Nat} (hp : intPos a.length i = k)
    (hk : k < a.length) : getInt a i = .ok [a[k]] := by
  rw [getInt_of_intPos hp, List.getElem?_eq_getElem hk]
  exact revalidate_of_valid fun y hy => ha y (List.mem_singleton.mp hy ▸ List.getElem_mem hk)

/-- `adjust` tests `v + n < 0`, `v ≥ n`; `PySlice.clip` tests `v + n < lower`, `upper < v` (the two `if`s below) -/
theorem adjust_eq_clip (n : Nat) (k d v : Int) : adjust n k v =
    PySlice.clip (if k < 0 then -1 else 0) (if k < 0 then (n : Int) - 1 else n) n d (some v) := by
  unfold adjust
  simp only [PySlice.clip]
  omega

theorem startOf_eq_clip (n : Nat) (k : Int) (o : Option Int) :
    let lo : Int := if k < 0 then -1 else 0
    let hi : Int := if k < 0 then (n : Int) - 1 else n
    startOf n k o = PySlice.clip lo hi n (if k < 0 then hi else lo) o := by
  cases o with
  | none => simp only [startOf, PySlice.clip]; split <;> rfl
  | some v => exact adjust_eq_clip n k _ v

theorem stopOf_eq_clip (n : Nat) (k : Int) (o : Option Int) :
    let lo : Int := if k < 0 then -1 else 0
    let hi : Int := if k < 0 then (n : Int) - 1 else n
    stopOf n k o = PySlice.clip lo hi n (if k < 0 then lo else hi) o := by
  cases o with
  | none => simp only [stopOf, PySlice.clip]; split <;> rfl
  | some v => exact adjust_eq_clip n k _ v

theorem countOf_eq_rangeLen (lo hi st : Int) : countOf lo hi st = PySlice.rangeLen lo hi st := by
  unfold countOf PySlice.rangeLen
  rw [apply_ite Int.toNat, apply_ite Int.toNat, apply_ite Int.toNat]
  rfl

/-- `span` is `slice.indices` followed by the length of `range`; the theory is that of the copies in Lemmas/PySlice.lean -/
theorem span_eq_sliceNorm (n : Nat) (start stop step : Option Int) :
    span n start stop step =
      (PySlice.sliceNorm start stop step n).map fun q => ⟨q.1, q.2.2, PySlice.rangeLen q.1 q.2.1 q.2.2⟩ := by
  unfold span
  dsimp only
  rw [PySlice.sliceNorm_eq, startOf_eq_clip, stopOf_eq_clip, countOf_eq_rangeLen, apply_ite (Except.map _)]
  rfl

theorem span_in_range {n : Nat} {start stop step : Option Int} {s : Span} (h : span n start stop step = .ok s)
    {k : Nat} (hk : k < s.count) : 0 ≤ s.start + (k : Int) * s.step ∧ s.start + (k : Int) * s.step < n := by
  obtain ⟨q, hq, rfl⟩ := Except.map_eq_ok.mp (span_eq_sliceNorm n start stop step ▸ h)
  exact PySlice.rangeLen_term_mem hq k hk

theorem span_ok {n : Nat} {start stop step : Option Int} (h : step ≠ some 0) : ∃ s, span n start stop step = .ok s := by
  have hst : step.getD 1 ≠ 0 := by
    intro h0
    cases step with
    | none => exact absurd h0 (by decide)
    | some v => exact h (congrArg some h0)
  exact ⟨_, if_neg hst⟩

theorem span_unit (n : Nat) (stop : Option Int) :
    span n none stop none = .ok ⟨0, 1, (stopOf n 1 stop).toNat⟩ := by
  have hc : ∀ hi : Int, countOf 0 hi 1 = hi.toNat := by
    intro hi
    unfold countOf
    omega
  exact congrArg Except.ok (congrArg (Span.mk 0 1) (hc _))

/-- the default `0` is never taken: every index is on the sequence (`span_in_range`) -/
theorem getitem_slice_eq {a : List Nat} (ha : Valid a) {start stop step : Option Int} {s : Span}
    (hs : span a.length start stop step = .ok s) :
    getitem a (.slice start stop step) =
      .ok ((List.range s.count).map fun (k : Nat) => a[(s.start + (k : Int) * s.step).toNat]?.getD 0) := by
  simp only [getitem, hs]
  refine (revalidate_of_valid fun x hx => ha x ?_).trans (congrArg _ ?_)
  · obtain ⟨p, -, hp⟩ := List.mem_filterMap.mp hx
    split at hp
    · cases hp
    · exact List.mem_of_getElem? hp
  · rw [Span.positions, List.filterMap_map, List.filterMap_eq_map_iff_forall_eq_some]
    intro k hk
    obtain ⟨h0, h1⟩ := span_in_range hs (List.mem_range.mp hk)
    have hlt : (s.start + (k : Int) * s.step).toNat < a.length := by omega
    rw [Function.comp, if_neg (by omega), List.getElem?_eq_getElem hlt, Option.getD_some]

/-- `a[:stop]` -/
theorem getitem_upto {a : List Nat} (ha : Valid a) (stop : Option Int) :
    getitem a (.slice none stop none) = .ok (a.take (stopOf a.length 1 stop).toNat) := by
  have hs := span_unit a.length stop
  rw [getitem_slice_eq ha hs]
  congr 1
  apply List.ext_getElem?
  intro k
  rw [List.getElem?_take, List.getElem?_map]
  by_cases hk : k < (stopOf a.length 1 stop).toNat
  · have hlt : k < a.length := by have := (span_in_range hs (k := k) hk).2; simp only at this; omega
    rw [List.getElem?_range hk, if_pos hk]
    simp [List.getElem?_eq_getElem hlt]
  · rw [if_neg hk, List.getElem?_eq_none (by simpa using hk)]; rfl

end OptiVerif.BinSeq
