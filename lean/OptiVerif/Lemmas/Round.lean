import Mathlib.Data.Rat.Floor

namespace OptiVerif

/-- Python's `round` on one value, half to even, as `Model/Quant.lean` and `Model/Gv.lean` both transcribe it
    (`Quant.roundHalfEven`, `Gv.roundHalfEven` are this by `rfl`); a copy, so that neither property's lemmas import the
    other's model and its translated table -/
def pyRound (q : Rat) : Int :=
  let f := q.floor
  let d := q - (f : Rat)
  if d < 1 / 2 then f else if 1 / 2 < d then f + 1 else if f % 2 = 0 then f else f + 1

/-- which way a tie goes is left open -/
theorem pyRound_cases (q : Rat) :
    (pyRound q = q.floor ∧ q - (q.floor : Rat) ≤ 1 / 2) ∨
      (pyRound q = q.floor + 1 ∧ 1 / 2 ≤ q - (q.floor : Rat)) := by
  simp only [pyRound]
  split_ifs with ha hb
  · exact .inl ⟨rfl, ha.le⟩
  · exact .inr ⟨rfl, hb.le⟩
  · exact .inl ⟨rfl, not_lt.mp hb⟩
  · exact .inr ⟨rfl, not_lt.mp ha⟩

theorem pyRound_close (q : Rat) : |((pyRound q : Int) : Rat) - q| ≤ 1 / 2 := by
  rcases pyRound_cases q with ⟨e, h⟩ | ⟨e, h⟩ <;> rw [e]
  · rwa [abs_sub_comm, abs_of_nonneg (sub_nonneg.mpr (Rat.floor_le q))]
  · have h2 : q < ((q.floor + 1 : Int) : Rat) := Rat.lt_floor_add_one q
    rw [abs_of_nonneg (sub_nonneg.mpr h2.le), Int.cast_add, Int.cast_one]
    linarith only [h]

/-- by closeness alone: `r q' + 1 ≤ r q` with `q ≤ q'` would force `q = q'` -/
theorem pyRound_mono : Monotone pyRound := fun q q' h => by
  by_contra hlt
  have h1 : (pyRound q' : Rat) + 1 ≤ (pyRound q : Rat) := by exact_mod_cast not_le.mp hlt
  have hq := (abs_le.mp (pyRound_close q)).2
  have hq' := (abs_le.mp (pyRound_close q')).1
  have : q = q' := le_antisymm h (by linarith only [h1, hq, hq'])
  exact hlt (this ▸ le_rfl)

theorem pyRound_int (c : Int) : pyRound (c : Rat) = c := by
  have h : |((pyRound c - c : Int) : Rat)| < 1 := by
    rw [Int.cast_sub]
    exact (pyRound_close c).trans_lt (by norm_num)
  exact sub_eq_zero.mp (Int.abs_lt_one_iff.mp (by exact_mod_cast h))

theorem pyRound_tie (k : Int) : pyRound ((k : Rat) + 1 / 2) = if k % 2 = 0 then k else k + 1 := by
  have hf : ((k : Rat) + 1 / 2).floor = k := by
    show ⌊(k : Rat) + 1 / 2⌋ = k
    rw [Int.floor_eq_iff]
    constructor <;> linarith
  simp only [pyRound, hf]
  rw [if_neg (by norm_num), if_neg (by norm_num)]

end OptiVerif
