import OptiVerif.Model.BinSeqStr
import OptiVerif.Lemmas.Guard

namespace OptiVerif.BinSeqStr

/-- a plain bit string: only the characters `0 1 space comma` -/
def Plain (s : List Nat) : Prop := s ≠ [] ∧ ∀ c ∈ s, c = 48 ∨ c = 49 ∨ c = 32 ∨ c = 44

def keep (c : Nat) : Bool := !(c == cSpace || c == cComma)
def cellOf (c : Nat) : Cell := if c == 48 then Cell.zero else Cell.one

theorem splitOn_eq (sep : Nat) (l : List Nat) : splitOn sep l = l.splitOn sep := by
  induction l with
  | nil => rfl
  | cons c t ih =>
    obtain ⟨r, rs, h⟩ := List.exists_cons_of_ne_nil (List.splitOn_ne_nil sep t)
    rw [splitOn, ih, List.splitOn_cons_eq_if_modifyHead, h]
    rfl

theorem Plain.digit {s : List Nat} (h : Plain s) {c : Nat} (hc : c ∈ s.filter keep) : c = 48 ∨ c = 49 := by
  obtain ⟨hcs, hk⟩ := List.mem_filter.mp hc
  rcases h.2 c hcs with rfl | rfl | rfl | rfl
  · exact .inl rfl
  · exact .inr rfl
  · cases hk
  · cases hk

theorem classify_plain (s : List Nat) (h : Plain s) : classify s = .bool := by
  obtain ⟨hne, hall⟩ := h
  unfold classify
  have h1 : s.isEmpty = false := by cases s <;> simp_all
  have h2 : s.all isBoolCh = true := by
    rw [List.all_eq_true]
    intro c hc
    rcases hall c hc with rfl | rfl | rfl | rfl <;> decide
  simp [h1, h2]

theorem str2array_plain (s : List Nat) (h : Plain s) :
    str2array s = .ok (.vec ((s.filter keep).map cellOf)) := by
  have hsplit : splitOn cSemi (s.filter keep) = [s.filter keep] := by
    rw [splitOn_eq]
    refine List.splitOn_eq_singleton fun hc => ?_
    rcases h.digit hc with h | h <;> cases h
  have hmap : (s.filter keep).mapM boolChar = .ok ((s.filter keep).map cellOf) := by
    apply mapM_except_ok
    intro c hc
    rcases h.digit hc with rfl | rfl <;> rfl
  have hpb : parseBool s = .ok (.vec ((s.filter keep).map cellOf)) := by
    unfold parseBool
    have : (s.filter (fun c => !(c == cSpace || c == cComma))) = s.filter keep := rfl
    simp only [this, hsplit, List.mapM_cons, hmap]
    rfl
  simp only [str2array, classify_plain s h, hpb]

end OptiVerif.BinSeqStr
