/- `Model/Pd.lean` at ℝ: every current `PD` computes is `r` times the per-sample power (`powerRow`) or beat (`beatRow`) of the
   input's rows, and `pdBody` is `pdCore` on these (`pdBody_eq`). -/
import OptiVerif.Model.Pd
import OptiVerif.Lemmas.ConvReal

namespace OptiVerif.Pd

theorem idb_real (x : ℝ) : idb x = (10 : ℝ) ^ (x / 10) := Conv.idb_eq x
theorem idb_pos (x : ℝ) : 0 < (idb x : ℝ) := Conv.idb_pos x

theorem ofRat_real (q : ℚ) : (ofRat q : ℝ) = (q : ℝ) := (Rat.cast_def q).symm

theorem cabs_mul_self (z : Cx ℝ) : cabs z * cabs z = z.normSq := by
  simp only [cabs, Transc.sqrt_real]
  exact Real.mul_self_sqrt (Cx.normSq_nonneg z)

/-- `|Ex|² + |Ey|²` per sample -/
def powerRow : Rows (Cx ℝ) → List ℝ
  | .one a => a.map Cx.normSq
  | .two a b => List.zipWith (· + ·) (a.map Cx.normSq) (b.map Cx.normSq)

/-- `2·Re(Ex·conj nx) + 2·Re(Ey·conj ny)` per sample -/
def beatRow : Rows (Cx ℝ) → Rows (Cx ℝ) → List ℝ
  | .one s, .one n => List.zipWith beat s n
  | .two sx sy, .two nx ny => List.zipWith (· + ·) (List.zipWith beat sx nx) (List.zipWith beat sy ny)
  | _, _ => []

theorem beat_eq (s n : Cx ℝ) : beat s n = 2 * (s.re * n.re + s.im * n.im) := by
  simp [beat, Cx.conj]; ring

/-- what preserves the beat preserves the power -/
theorem powerRow_eq_beatRow (r : Rows (Cx ℝ)) : powerRow r = (beatRow r r).map (· / 2) := by
  have h : ∀ z : Cx ℝ, z.normSq = beat z z / 2 := fun z => by rw [beat_eq, Cx.normSq]; ring
  cases r <;> simp only [powerRow, beatRow, List.zipWith_self, List.map_zipWith, List.zipWith_map, List.map_map,
    Function.comp_def, add_div, ← h]

/-- same layout, all rows of length `n` -/
def SameShape (n : ℕ) : Rows (Cx ℝ) → Rows (Cx ℝ) → Prop
  | .one a, .one b => a.length = n ∧ b.length = n
  | .two a a', .two b b' => a.length = n ∧ a'.length = n ∧ b.length = n ∧ b'.length = n
  | _, _ => False

/-- what the constructor of `optical_signal` guarantees, except `n ≠ 0`, which the statements carry separately -/
def FieldOK (n : ℕ) (x : Pd.Field (Cx ℝ)) : Prop :=
  x.sig.Shaped n ∧ ∀ nz, x.noise = some nz → SameShape n x.sig nz

theorem FieldOK.len {n : ℕ} {x : Pd.Field (Cx ℝ)} (h : FieldOK n x) : x.sig.len = n := by
  obtain ⟨h1, _⟩ := h
  cases hx : x.sig <;> rw [hx] at h1
  exacts [h1, h1.1]

theorem length_powerRow {n : ℕ} {rows : Rows (Cx ℝ)} (h : rows.Shaped n) : (powerRow rows).length = n := by
  cases rows <;> simp only [Rows.Shaped, powerRow] at * <;> simp [h]

theorem length_beatRow {n : ℕ} {s nz : Rows (Cx ℝ)} (h : SameShape n s nz) : (beatRow s nz).length = n := by
  cases s <;> cases nz <;> simp only [SameShape, beatRow] at * <;> simp [h]

theorem shaped_of_sameShape {n : ℕ} {s nz : Rows (Cx ℝ)} (h : SameShape n s nz) : nz.Shaped n := by
  cases s <;> cases nz <;> simp only [SameShape, Rows.Shaped] at * <;> simp [h]

theorem length_zipAdd (a b : List ℝ) : (zipAdd a b).length = min a.length b.length := by
  simp [zipAdd]

theorem zipAdd_map (f : ℝ → ℝ) (hf : ∀ u v, f (u + v) = f u + f v) (a b : List ℝ) :
    zipAdd (a.map f) (b.map f) = (zipAdd a b).map f := by
  simp only [zipAdd, List.zipWith_map, List.map_zipWith, hf]

theorem zipAdd_zeros {n : ℕ} {a : List ℝ} (h : a.length = n) :
    zipAdd (List.replicate n 0) a = a ∧ zipAdd a (List.replicate n 0) = a := by
  constructor <;> exact List.ext_getElem (by simp [zipAdd, h]) fun k _ _ => by simp [zipAdd]

theorem zipAdd_right_comm (a b c : List ℝ) : zipAdd (zipAdd a b) c = zipAdd (zipAdd a c) b :=
  List.ext_getElem (by simp only [length_zipAdd, min_right_comm]) fun k _ _ => by
    simp only [zipAdd, List.getElem_zipWith]
    exact add_right_comm _ _ _

theorem iSig_eq (r : ℝ) (rows : Rows (Cx ℝ)) : iSig r rows = (powerRow rows).map (r * ·) := by
  cases rows <;> simp only [iSig, powerRow, Gen.PdTable.iSig, cabs_mul_self, zipAdd, List.map_map, List.map_zipWith,
    List.zipWith_map, Function.comp_def, mul_add]

/-- `Gen.PdTable.iNN` is the same formula as `Gen.PdTable.iSig` -/
theorem iNN_eq (r : ℝ) (rows : Rows (Cx ℝ)) : iNN r rows = (powerRow rows).map (r * ·) := iSig_eq r rows

theorem iSN_eq (r : ℝ) (s nz : Rows (Cx ℝ)) : iSN r s nz = (beatRow s nz).map (r * ·) := by
  cases s <;> cases nz <;> simp only [iSN, beatRow, List.map_nil, ← List.map_zipWith]
  exact zipAdd_map _ (mul_add r) _ _

/-- `r·2Re(Ex·n̄x + Ey·n̄y)` from the input's noise component, zeros without one -/
noncomputable def beatSN (r : ℝ) (x : Pd.Field (Cx ℝ)) : List ℝ :=
  match x.noise with
  | some nz => (beatRow x.sig nz).map (r * ·)
  | none => List.replicate x.sig.len 0
/-- `r·(|nx|²+|ny|²)`, likewise -/
noncomputable def beatNN (r : ℝ) (x : Pd.Field (Cx ℝ)) : List ℝ :=
  match x.noise with
  | some nz => (powerRow nz).map (r * ·)
  | none => List.replicate x.sig.len 0

theorem pdBody_eq (kB e fs r T Rl iDark Fn : ℝ) (sel : List Char) (dT dN : List ℝ) (x : Pd.Field (Cx ℝ)) :
    pdBody kB e fs r T Rl iDark Fn sel dT dN x =
      pdCore kB e fs T Rl iDark Fn sel dT dN x.sig.len ((powerRow x.sig).map (r * ·)) (beatSN r x) (beatNN r x)
        (iAse r x.noise) := by
  rw [pdBody, iSig_eq]
  cases h : x.noise <;> simp only [snOf, nnOf, beatSN, beatNN, h, iSN_eq, iNN_eq, Nat.cast_zero]

theorem length_beatSN {r : ℝ} {n : ℕ} {x : Pd.Field (Cx ℝ)} (hx : FieldOK n x) : (beatSN r x).length = n := by
  cases h : x.noise with
  | none => simp [beatSN, h, hx.len]
  | some nz => simp [beatSN, h, length_beatRow (hx.2 nz h)]
theorem length_beatNN {r : ℝ} {n : ℕ} {x : Pd.Field (Cx ℝ)} (hx : FieldOK n x) : (beatNN r x).length = n := by
  cases h : x.noise with
  | none => simp [beatNN, h, hx.len]
  | some nz => simp [beatNN, h, length_powerRow (shaped_of_sameShape (hx.2 nz h))]

theorem sumL_eq (xs : List ℝ) : sumL xs = xs.sum := by
  simp only [sumL, Nat.cast_zero, List.sum_eq_foldl]

theorem mean_eq (xs : List ℝ) : mean xs = xs.sum / xs.length := by rw [mean, sumL_eq]

theorem mean_map_mul (c : ℝ) (xs : List ℝ) : mean (xs.map (c * ·)) = c * mean xs := by
  have h : (xs.map (c * ·)).sum = c * xs.sum := by simpa using List.sum_map_mul_left xs id c
  rw [mean_eq, mean_eq, List.length_map, h, mul_div_assoc]

theorem mean_zipWith_add (a b : List ℝ) (h : a.length = b.length) :
    mean (List.zipWith (· + ·) a b) = mean a + mean b := by
  simp only [mean_eq, ← List.sum_add_sum_eq_sum_zipWith_of_length_eq a b h, List.length_zipWith, h, min_self, add_div]

theorem mean_replicate (n : ℕ) (hn : n ≠ 0) (c : ℝ) : mean (List.replicate n c) = c := by
  simp only [mean_eq, List.sum_replicate, List.length_replicate, nsmul_eq_mul]
  field_simp

theorem noisePowerSum_eq {n : ℕ} (nz : Rows (Cx ℝ)) (h : nz.Shaped n) : noisePowerSum nz = mean (powerRow nz) := by
  cases nz with
  | one a => simp only [noisePowerSum, powerRow, cabs_mul_self]
  | two a b =>
    simp only [noisePowerSum, powerRow, cabs_mul_self]
    rw [mean_zipWith_add _ _ (by simp [h.1, h.2])]

theorem iAse_none (r : ℝ) : iAse r none = 0 := by
  simp only [iAse, Gen.PdTable.iAseNoNoise, ofRat_real, Rat.cast_zero]

theorem iAse_some (r : ℝ) {n : ℕ} {nz : Rows (Cx ℝ)} (h : nz.Shaped n) : iAse r (some nz) = r * mean (powerRow nz) := by
  simp only [iAse, Gen.PdTable.iAse, noisePowerSum_eq nz h]

theorem sigma2N_eq (e r iDark fs : ℝ) (x : Pd.Field (Cx ℝ)) :
    sigma2N e r iDark fs x = Gen.PdTable.sN e (mean ((powerRow x.sig).map (r * ·))) (iAse r x.noise) iDark fs := by
  rw [sigma2N, iSig_eq]

end OptiVerif.Pd
