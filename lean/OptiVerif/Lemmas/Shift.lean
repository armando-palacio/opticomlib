/-
`fftshift`/`ifftshift` as rotations, the signed-index axis, the shapes of the transforms: lists and integers only.
-/
import OptiVerif.Model.Fourier
import Mathlib.Data.List.Rotate
import Mathlib.Tactic.Ring

namespace OptiVerif.Fourier

theorem rot_eq_rotate {α} (k : ℕ) (xs : List α) : rot k xs = xs.rotate k := by
  rw [rot, List.rotate_eq_drop_append_take_mod]

theorem length_rot {α} (k : ℕ) (xs : List α) : (rot k xs).length = xs.length := by
  rw [rot_eq_rotate, List.length_rotate]

theorem rot_replicate {α} (k n : ℕ) (z : α) : rot k (List.replicate n z) = List.replicate n z := by
  rw [rot_eq_rotate, List.rotate_replicate]

theorem rot_rot {α} (a b : ℕ) (xs : List α) : rot a (rot b xs) = rot (b + a) xs := by
  rw [rot_eq_rotate, rot_eq_rotate, rot_eq_rotate, List.rotate_rotate]

theorem rot_length {α} (xs : List α) : rot xs.length xs = xs := by
  rw [rot_eq_rotate, List.rotate_length]

theorem rot_perm {α} (k : ℕ) (xs : List α) : (rot k xs).Perm xs := by
  rw [rot_eq_rotate]
  exact List.rotate_perm _ _

theorem ifftshift_fftshift {α} (xs : List α) : ifftshift (fftshift xs) = xs := by
  rw [ifftshift, fftshift, length_rot, rot_rot, Nat.sub_add_cancel (Nat.div_le_self _ 2), rot_length]

theorem fftshift_ifftshift {α} (xs : List α) : fftshift (ifftshift xs) = xs := by
  rw [ifftshift, fftshift, length_rot, rot_rot, Nat.add_sub_cancel' (Nat.div_le_self _ 2), rot_length]

theorem length_fftshift {α} (xs : List α) : (fftshift xs).length = xs.length := length_rot _ _
theorem length_ifftshift {α} (xs : List α) : (ifftshift xs).length = xs.length := length_rot _ _

theorem mem_ifftshift {α} (xs : List α) (x : α) : x ∈ ifftshift xs ↔ x ∈ xs := (rot_perm _ _).mem_iff

theorem fftshift_map {α β} (f : α → β) (xs : List α) : fftshift (xs.map f) = (fftshift xs).map f := by
  simp only [fftshift, List.length_map, rot_eq_rotate, List.map_rotate]

theorem getElem_fftshift {α} (xs : List α) (i : ℕ) (hi : i < (fftshift xs).length) :
    (fftshift xs)[i] = xs[(i + (xs.length - xs.length / 2)) % xs.length]'(by
      rw [length_fftshift] at hi; exact Nat.mod_lt _ (by omega)) := by
  simp only [fftshift, rot_eq_rotate, List.getElem_rotate]

theorem length_sidxList (n : ℕ) : (sidxList n).length = n := by simp [sidxList]

theorem length_wAxis {R : Type} [Mul R] [Div R] [NatCast R] [IntCast R] [Transc R] (n : ℕ) (fs : R) :
    (wAxis n fs).length = n := by simp [wAxis, length_sidxList]

theorem getElem_sidxList (n j : ℕ) (h : j < (sidxList n).length) : (sidxList n)[j] = sidx n j := by
  simp [sidxList]

theorem sidxList_eq_append (n : ℕ) :
    sidxList n = (List.range (n - n / 2)).map (fun i : ℕ => (i : ℤ))
      ++ (List.range (n / 2)).map (fun j : ℕ => (j : ℤ) - ((n / 2 : ℕ) : ℤ)) := by
  have hn : n - n / 2 + n / 2 = n := Nat.sub_add_cancel (Nat.div_le_self n 2)
  rw [sidxList, ← hn, List.range_add, hn, List.map_append, List.map_map]
  -- the non-negative half has ⌊(n-1)/2⌋ + 1 = n - ⌊n/2⌋ entries
  congr 1 <;> refine List.map_congr_left fun i hi => ?_ <;> rw [List.mem_range] at hi
  · exact if_pos (by omega)
  · rw [Function.comp_apply, sidx, if_neg (by omega)]
    omega

theorem fftshift_sidxList (n : ℕ) :
    fftshift (sidxList n) = (List.range n).map (fun i : ℕ => (i : ℤ) - ((n / 2 : ℕ) : ℤ)) := by
  -- the shift rotates by the length of the first half: it swaps the halves
  have hrot : fftshift (sidxList n)
      = (sidxList n).rotate ((List.range (n - n / 2)).map (fun i : ℕ => (i : ℤ))).length := by
    rw [fftshift, rot_eq_rotate, length_sidxList, List.length_map, List.length_range]
  have hr : List.range n = List.range (n / 2) ++ (List.range (n - n / 2)).map (n / 2 + ·) := by
    rw [← List.range_add, Nat.add_sub_cancel' (Nat.div_le_self n 2)]
  rw [hrot, sidxList_eq_append, List.rotate_append_length_eq, hr, List.map_append, List.map_map]
  congr 1
  exact List.map_congr_left fun i _ => by rw [Function.comp_apply]; push_cast; ring

section
variable {R : Type} [Add R] [Sub R] [Mul R] [Div R] [Neg R] [NatCast R] [Transc R]

theorem length_dft (xs : List (Cx R)) : (dft xs).length = xs.length := by simp [dft]
omit [Neg R] in
theorem length_idft (xs : List (Cx R)) : (idft xs).length = xs.length := by simp [idft]

theorem length_callRow (d : Dom) (s : Bool) (xs : List (Cx R)) : (callRow d s xs).length = xs.length := by
  cases d <;> cases s <;> simp [callRow, length_dft, length_idft, length_fftshift, length_ifftshift]

theorem call_leftInverse {d d' : Dom} {s s' : Bool} (h : ∀ xs : List (Cx R), callRow d' s' (callRow d s xs) = xs)
    (p : Payload R) : call d' s' (call d s p) = p := by
  obtain ⟨sig, noise⟩ := p
  have hid : (callRow d' s' ∘ callRow d s : List (Cx R) → List (Cx R)) = id := funext h
  cases noise <;> simp [call, hid]

end

end OptiVerif.Fourier
