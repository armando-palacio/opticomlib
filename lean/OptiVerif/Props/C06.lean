/-
C06 — MZM obeys its passive transfer function; PM / laser phase terms are pure rotations.
The objects are the generic definitions of `Model/Modulators.lean` (the ones the driver runs at `Float`
against the real `MZM`, `PM`, `LASER`), read at `R := ℝ`.  Beside each statement's own hypotheses the fields are assumed
to have the shape invariant of `optical_signal` (`Field.WF`).
-/
import OptiVerif.Lemmas.ModulatorsSpectrum
import OptiVerif.Lemmas.ModulatorsFilter

namespace OptiVerif.Props.C06
open OptiVerif.Modulators OptiVerif.Wire
open OptiVerif.Gen.OptDev (idb idbm mzmLoss mzmG laserPhaseSigma laserRinSigma)

/-- `utils.idb(x) = 10^(x/10)`, `utils.idbm(x) = 10^(x/10 − 3)` -/
theorem db_helpers_documented (x : ℝ) : (idb x : ℝ) = (10 : ℝ) ^ (x / 10) ∧ (idbm x : ℝ) = (10 : ℝ) ^ (x / 10 - 3) :=
  ⟨idb_real x, idbm_real x⟩

/-- `loss = 10^(−loss_dB/10)` and `θ = π(u+bias)/(2Vπ)` -/
theorem mzm_loss_theta_documented (ld Vpi bias u : ℝ) :
    (mzmLoss ld : ℝ) = (10 : ℝ) ^ (-ld / 10) ∧ (mzmG Vpi bias u : ℝ) = Real.pi * (u + bias) / (2 * Vpi) :=
  ⟨mzmLoss_real ld, mzmG_real Vpi bias u⟩

/-- the PM phase is `π·u/Vπ`, and the source uses the same expression for `.noise` as for `.signal` -/
theorem pm_phase_documented (Vpi u : ℝ) (us : List ℝ) :
    (pmPhase Vpi u : ℝ) = Real.pi * u / Vpi ∧ (pmRowsNoise Vpi us : Rows (Cx ℝ) → _) = pmRows Vpi us :=
  ⟨pmPhase_real Vpi u, pmRowsNoise_eq Vpi us⟩

/-- LASER: the scales handed to the Gaussian generator, the offset / phase-noise exponents, the two rejection limits -/
theorem laser_formulas_documented (lw dt rin fs df t φ : ℝ) :
    (laserPhaseSigma lw dt : ℝ) = Real.sqrt (2 * Real.pi * lw * dt) ∧
    (laserRinSigma rin fs : ℝ) = Real.sqrt ((10 : ℝ) ^ (rin / 10) * fs) ∧
    (Gen.OptDev.laserOffsetArg df t : ℝ) = 2 * Real.pi * df * t ∧
    (Gen.OptDev.laserPhaseArg φ : ℝ) = φ ∧
    (Gen.OptDev.laserNyquist fs : ℝ) = fs / 2 ∧
    (Gen.OptDev.laserRinFloor : ℝ) = -1 :=
  ⟨rfl, by rw [laserRinSigma, idb_real]; rfl, rfl, rfl, rfl, laserRinFloor_real⟩

/-- `h = sqrt(loss)·(cos θ + j·10^(−ER/20)·sin θ)`, `θ = π(u+bias)/(2Vπ)`, `loss = 10^(−loss_dB/10)`, in ℂ -/
theorem mzm_transfer (ld er Vpi bias u : ℝ) :
    (mzmHu ld er Vpi bias u).toC =
      (Real.sqrt ((10 : ℝ) ^ (-ld / 10)) : ℂ) *
        ((Real.cos (Real.pi * (u + bias) / (2 * Vpi)) : ℂ)
          + Complex.I * (((10 : ℝ) ^ (-er / 20) : ℝ) : ℂ) * (Real.sin (Real.pi * (u + bias) / (2 * Vpi)) : ℂ)) := by
  simp only [mzmHu_def, mzmH, mzmG_real, mzmLoss_real, mzmK_real, Transc.sqrt_real, Transc.cos_real, Transc.sin_real]
  -- keeps `simp` from pushing the casts through `cos`, `sin`, `sqrt`, `rpow`: what is left is component arithmetic
  generalize Real.cos (Real.pi * (u + bias) / (2 * Vpi)) = c
  generalize Real.sin (Real.pi * (u + bias) / (2 * Vpi)) = sn
  generalize Real.sqrt ((10 : ℝ) ^ (-ld / 10)) = sl
  generalize (10 : ℝ) ^ (-er / 20) = k
  apply Complex.ext <;> simp

/-- the code's `eta/2` with `eta = 2*sqrt(idb(-ER))` is `10^(−ER/20)` -/
theorem mzm_k_documented (er : ℝ) : (mzmK er : ℝ) = (10 : ℝ) ^ (-er / 20) := mzmK_real er

/-- the factor never exceeds `loss` in power (0 ≤ k ≤ 1, loss ≥ 0) -/
theorem mzmH_passive (loss k g : ℝ) (hl : 0 ≤ loss) (hk0 : 0 ≤ k) (hk1 : k ≤ 1) :
    (mzmH loss k g).normSq ≤ loss := Modulators.mzmH_passive loss k g hl hk0 hk1

example : (mzmH (1/2 : ℝ) (1/20) 1).normSq ≤ 1/2 := mzmH_passive _ _ _ (by norm_num) (by norm_num) (by norm_num)

/-- one sample: `|a·h|² ≤ loss·|a|²` -/
theorem mzm_sample_passive (ld er Vpi bias u : ℝ) (her : 0 ≤ er) (a : Cx ℝ) :
    (a * mzmHu ld er Vpi bias u).normSq ≤ (10 : ℝ) ^ (-ld / 10) * a.normSq := by
  rw [Cx.normSq_mul, ← mzmLoss_real, mul_comm]
  exact mul_le_mul_of_nonneg_right
    (Modulators.mzmH_passive _ _ _ (mzmLoss_pos ld).le (mzmK_pos er).le (mzmK_le_one her)) (Cx.normSq_nonneg a)

/-- **MZM never amplifies**: every sample of every row of signal and noise of the output has power
    `≤ loss·|in|²` (blanked rows included), for every drive form, both `pol`, every bias/Vπ, `ER_dB ≥ 0`. -/
theorem mzm_passive (pol : PolSel) (bias Vpi ld er : ℝ) (her : 0 ≤ er) (d : Drive ℝ) (x out : Modulators.Field (Cx ℝ))
    (hx : x.WF) (h : mzm pol bias Vpi ld er d x = .ok out) :
    FieldRel (fun o i => o.normSq ≤ (10 : ℝ) ^ (-ld / 10) * i.normSq) out x := by
  obtain ⟨hlen, hpol, rfl⟩ := mzm_ok_inv h
  have hl := mzmHs_length bias Vpi ld er x.sig.len d hlen
  refine fieldRel_of_rows_self hx.shaped _ fun r hr => rowsRel_mzmRows pol hl hr
    (fun a => forall_mem_mzmHs _ _ _ _ _ _ fun u => mzm_sample_passive ld er Vpi bias u her a) fun a => ?_
  rw [czero_real, Cx.normSq_zero, ← mzmLoss_real]
  exact mul_nonneg (mzmLoss_pos ld).le (Cx.normSq_nonneg a)

/-- with `loss_dB ≥ 0` the output power never exceeds the input power, sample by sample -/
theorem mzm_never_amplifies (pol : PolSel) (bias Vpi ld er : ℝ) (hld : 0 ≤ ld) (her : 0 ≤ er) (d : Drive ℝ)
    (x out : Modulators.Field (Cx ℝ)) (hx : x.WF) (h : mzm pol bias Vpi ld er d x = .ok out) :
    FieldRel (fun o i => o.normSq ≤ i.normSq) out x := by
  refine (mzm_passive pol bias Vpi ld er her d x out hx h).imp fun o i hoi => hoi.trans ?_
  exact mul_le_of_le_one_left (Cx.normSq_nonneg i) (mzmLoss_real ld ▸ mzmLoss_le_one hld)

/-- non-vacuity -/
example : ∃ out, mzm (R := ℝ) .x 1 5 2 26 (.array [0, 3]) ⟨.two [⟨1, 2⟩, ⟨0, 1⟩] [⟨3, 0⟩, ⟨1, 1⟩],
    some (.two [⟨1, 0⟩, ⟨0, 0⟩] [⟨0, 1⟩, ⟨1, 1⟩])⟩ = .ok out :=
  ⟨_, mzm_eq_ok (Or.inl rfl) (by decide)⟩

/-- on/off power ratio of the factor: `|h(θ=0)|² / |h(θ=π/2)|² = 10^(ER/10)` -/
theorem mzm_er (ld er Vpi bias uon uoff : ℝ) (hV : Vpi ≠ 0) (hon : uon + bias = 0) (hoff : uoff + bias = Vpi) :
    (mzmHu ld er Vpi bias uon).normSq / (mzmHu ld er Vpi bias uoff).normSq = (10 : ℝ) ^ (er / 10) := by
  have g0 : (mzmG Vpi bias uon : ℝ) = 0 := by rw [mzmG_real, hon, mul_zero, zero_div]
  have g1 : (mzmG Vpi bias uoff : ℝ) = Real.pi / 2 := by rw [mzmG_real, hoff]; field_simp
  have hl := mzmLoss_pos ld
  rw [mzmHu_def, mzmHu_def, g0, g1, mzmH_normSq_zero _ _ hl.le, mzmH_normSq_pi_div_two _ _ hl.le, mzmK_sq,
    ← div_div, div_self hl.ne', one_div, ← Real.rpow_neg (by norm_num), neg_div, neg_neg]

/-- the same at the output: for a non-zero input sample the on/off output power ratio is `10^(ER/10)` -/
theorem mzm_er_output (ld er Vpi bias uon uoff : ℝ) (hV : Vpi ≠ 0) (hon : uon + bias = 0) (hoff : uoff + bias = Vpi)
    (a : Cx ℝ) (ha : a.normSq ≠ 0) :
    (a * mzmHu ld er Vpi bias uon).normSq / (a * mzmHu ld er Vpi bias uoff).normSq = (10 : ℝ) ^ (er / 10) := by
  rw [Cx.normSq_mul, Cx.normSq_mul, mul_div_mul_left _ _ ha]
  exact mzm_er ld er Vpi bias uon uoff hV hon hoff

example : (mzmHu (2:ℝ) 30 5 (5/2) (-5/2)).normSq / (mzmHu (2:ℝ) 30 5 (5/2) (5/2)).normSq = (10:ℝ) ^ ((30:ℝ) / 10) :=
  mzm_er 2 30 5 (5/2) (-5/2) (5/2) (by norm_num) (by norm_num) (by norm_num)

/-- shifting the drive by `2Vπ` negates the factor -/
theorem mzm_period_neg (ld er Vpi bias u : ℝ) (hV : Vpi ≠ 0) :
    mzmHu ld er Vpi bias (u + 2 * Vpi) = -mzmHu ld er Vpi bias u := by
  simp only [mzmHu_def, mzmG_shift Vpi bias u hV, mzmH_add_pi]

/-- shifting the drive by `2Vπ` leaves the output power of every sample unchanged -/
theorem mzm_sample_periodic (ld er Vpi bias u : ℝ) (hV : Vpi ≠ 0) (a : Cx ℝ) :
    (a * mzmHu ld er Vpi bias (u + 2 * Vpi)).normSq = (a * mzmHu ld er Vpi bias u).normSq := by
  rw [mzm_period_neg ld er Vpi bias u hV, Cx.mul_neg', Cx.normSq_neg]

/-- the drive with `c` added to every sample (container kind kept) -/
def shiftDrive (c : ℝ) : Drive ℝ → Drive ℝ
  | .scalar v => .scalar (v + c)
  | .array vs => .array (vs.map (· + c))
  | .seq vs => .seq (vs.map (· + c))
  | .esig vs nz => .esig (vs.map (· + c)) nz

/-- **output power is 2Vπ-periodic in the drive**: whole-device statement, every drive form, signal and noise,
    every sample of every row -/
theorem mzm_periodic (pol : PolSel) (bias Vpi ld er : ℝ) (hV : Vpi ≠ 0) (d : Drive ℝ) (x out : Modulators.Field (Cx ℝ))
    (hx : x.WF) (h : mzm pol bias Vpi ld er d x = .ok out) :
    ∃ out', mzm pol bias Vpi ld er (shiftDrive (2 * Vpi) d) x = .ok out' ∧
      FieldRel (fun o o' => o.normSq = o'.normSq) out out' := by
  obtain ⟨hlen, hpol, rfl⟩ := mzm_ok_inv h
  have hs : (shiftDrive (2 * Vpi) d).samples = d.samples.map (· + 2 * Vpi) := by
    cases d <;> simp [shiftDrive, Drive.samples]
  refine ⟨_, mzm_eq_ok (by rw [hs]; simpa using hlen) hpol, ?_⟩
  have hh := forall₂_mzmHs_map (Q := fun h h' => ∀ a : Cx ℝ, (a * h).normSq = (a * h').normSq) bias Vpi ld er
    x.sig.len (· + 2 * Vpi) hs fun u a => (mzm_sample_periodic ld er Vpi bias u hV a).symm
  refine fieldRel_of_rows hx.shaped _ _ fun r _ => rowsRel_mzmRows_congr (R := Eq) (P := fun o o' => o.normSq = o'.normSq)
    ?_ rfl pol hh (RowsRel.refl (fun _ => rfl) r)
  rintro a _ h h' rfl hq
  exact hq a

/-- the noise part of the output is what the device makes of a noise-free input whose signal is that noise -/
theorem mzm_noise_alike (pol : PolSel) (bias Vpi ld er : ℝ) (d : Drive ℝ) (s nz : Rows (Cx ℝ)) (out : Modulators.Field (Cx ℝ))
    (hn : nz.len = s.len) (h : mzm pol bias Vpi ld er d ⟨s, some nz⟩ = .ok out) :
    ∃ o', mzm pol bias Vpi ld er d ⟨nz, none⟩ = .ok o' ∧ out.noise = some o'.sig := by
  obtain ⟨hlen, hpol, rfl⟩ := mzm_ok_inv h
  exact ⟨_, mzm_eq_ok (x := ⟨nz, none⟩) (by simpa [hn] using hlen) hpol, by simp [hn]⟩

/-- the signal part does not depend on the noise part, and no noise appears from nowhere -/
theorem mzm_signal_indep_noise (pol : PolSel) (bias Vpi ld er : ℝ) (d : Drive ℝ) (s : Rows (Cx ℝ))
    (nz : Option (Rows (Cx ℝ))) (out : Modulators.Field (Cx ℝ)) (h : mzm pol bias Vpi ld er d ⟨s, nz⟩ = .ok out) :
    mzm pol bias Vpi ld er d ⟨s, none⟩ = .ok ⟨out.sig, none⟩ ∧ (out.noise.isSome ↔ nz.isSome) := by
  obtain ⟨hlen, hpol, rfl⟩ := mzm_ok_inv h
  refine ⟨by rw [mzm_eq_ok (x := ⟨s, none⟩) hlen hpol]; rfl, ?_⟩
  cases nz <;> simp

/-- `pol = 'x'`: the y row of signal and of noise is extinguished, the x row is treated as a single-polarisation input -/
theorem mzm_blank_x (bias Vpi ld er : ℝ) (d : Drive ℝ) (a b : List (Cx ℝ)) (nz : Option (Rows (Cx ℝ)))
    (out : Modulators.Field (Cx ℝ)) (h : mzm .x bias Vpi ld er d ⟨.two a b, nz⟩ = .ok out) :
    (∃ a' y', out.sig = .two a' y' ∧ (∀ z ∈ y', z = czero) ∧
        mzm .x bias Vpi ld er d ⟨.one a, none⟩ = .ok ⟨.one a', none⟩) ∧
      ∀ na nb, nz = some (.two na nb) → ∃ na' ny', out.noise = some (.two na' ny') ∧ ∀ z ∈ ny', z = czero := by
  obtain ⟨hlen, hpol, rfl⟩ := mzm_ok_inv h
  refine ⟨⟨_, _, rfl, by simp, ?_⟩, ?_⟩
  · rw [mzm_eq_ok (x := ⟨.one a, none⟩) hlen hpol]; rfl
  · rintro na nb rfl
    exact ⟨_, _, rfl, by simp⟩

/-- `pol = 'y'`: the x row of signal and of noise is extinguished, the y row is treated as a single-polarisation input
    (`hab`: the length check of `mzm` reads the x row, that of the one-row input its only row) -/
theorem mzm_blank_y (bias Vpi ld er : ℝ) (d : Drive ℝ) (a b : List (Cx ℝ)) (nz : Option (Rows (Cx ℝ)))
    (out : Modulators.Field (Cx ℝ)) (hab : a.length = b.length) (h : mzm .y bias Vpi ld er d ⟨.two a b, nz⟩ = .ok out) :
    (∃ x' b', out.sig = .two x' b' ∧ (∀ z ∈ x', z = czero) ∧
        mzm .y bias Vpi ld er d ⟨.one b, none⟩ = .ok ⟨.one b', none⟩) ∧
      ∀ na nb, nz = some (.two na nb) → ∃ nx' nb', out.noise = some (.two nx' nb') ∧ ∀ z ∈ nx', z = czero := by
  obtain ⟨hlen, hpol, rfl⟩ := mzm_ok_inv h
  refine ⟨⟨_, _, rfl, by simp, ?_⟩, ?_⟩
  · rw [mzm_eq_ok (x := ⟨.one b, none⟩) (by simpa [Rows.len, hab] using hlen) hpol]
    simp [Rows.len, hab, mzmRows_one]
  · rintro na nb rfl
    exact ⟨_, _, rfl, by simp⟩

/-- a one-polarisation input is never blanked: both `pol` settings give the same result -/
theorem mzm_onepol_pol_irrelevant (bias Vpi ld er : ℝ) (d : Drive ℝ) (a : List (Cx ℝ)) (nz : Option (List (Cx ℝ))) :
    mzm .x bias Vpi ld er d ⟨.one a, nz.map .one⟩ = mzm .y bias Vpi ld er d ⟨.one a, nz.map .one⟩ := by
  rw [mzm_eq, mzm_eq]
  cases nz <;> rfl

/-- ndarray, list/tuple/str and electrical_signal drives (with or without a noise part of their own) with the same
    samples give the same result -/
theorem mzm_drive_forms (pol : PolSel) (bias Vpi ld er : ℝ) (us : List ℝ) (dn : Option (List ℝ)) (x : Modulators.Field (Cx ℝ)) :
    mzm pol bias Vpi ld er (.seq us) x = mzm pol bias Vpi ld er (.array us) x ∧
      mzm pol bias Vpi ld er (.esig us dn) x = mzm pol bias Vpi ld er (.array us) x := ⟨rfl, rfl⟩

/-- a scalar drive is the constant waveform (and equals the length-1 array, which numpy broadcasts) -/
theorem mzm_drive_scalar (pol : PolSel) (bias Vpi ld er : ℝ) (v : ℝ) (x : Modulators.Field (Cx ℝ)) :
    mzm pol bias Vpi ld er (.scalar v) x = mzm pol bias Vpi ld er (.array (List.replicate x.sig.len v)) x ∧
      mzm pol bias Vpi ld er (.scalar v) x = mzm pol bias Vpi ld er (.array [v]) x := by
  refine ⟨?_, rfl⟩
  by_cases hpol : pol = .other
  · subst hpol
    simp [mzm_eq]
  · rw [mzm_eq_ok (d := .scalar v) (Or.inr rfl) hpol,
      mzm_eq_ok (d := .array (List.replicate x.sig.len v)) (Or.inl (by simp [Drive.samples])) hpol]
    rw [mzmHs_scalar]

/-- every drive of matching length (or length 1) is accepted for `pol ∈ {x, y}` -/
theorem mzm_accepts (pol : PolSel) (bias Vpi ld er : ℝ) (d : Drive ℝ) (x : Modulators.Field (Cx ℝ)) (hpol : pol ≠ .other)
    (hlen : d.samples.length = x.sig.len ∨ d.samples.length = 1) : ∃ out, mzm pol bias Vpi ld er d x = .ok out :=
  ⟨_, mzm_eq_ok hlen hpol⟩

/-- mismatched lengths raise `ValueError` -/
theorem mzm_length_mismatch (pol : PolSel) (bias Vpi ld er : ℝ) (d : Drive ℝ) (x : Modulators.Field (Cx ℝ))
    (h1 : d.samples.length ≠ x.sig.len) (h2 : d.samples.length ≠ 1) :
    mzm pol bias Vpi ld er d x = .error .ValueError := by
  rw [mzm_eq, if_pos ⟨h1, h2⟩]

/-- the only failure of the model is `ValueError`, exactly for a length mismatch or an invalid `pol` -/
theorem mzm_error_iff (pol : PolSel) (bias Vpi ld er : ℝ) (d : Drive ℝ) (x : Modulators.Field (Cx ℝ)) (e : Err) :
    mzm pol bias Vpi ld er d x = .error e ↔
      e = .ValueError ∧ ((d.samples.length ≠ x.sig.len ∧ d.samples.length ≠ 1) ∨ pol = .other) := by
  rw [mzm_eq]
  split_ifs with h1 h2
  · exact ⟨fun h => ⟨(Except.error.inj h).symm, .inl h1⟩, fun h => h.1 ▸ rfl⟩
  · exact ⟨fun h => ⟨(Except.error.inj h).symm, .inr h2⟩, fun h => h.1 ▸ rfl⟩
  · exact ⟨fun h => (by cases h), fun h => (h.2.elim h1 h2).elim⟩

/-- with `BW` the result is, by definition, `BPF` (model `Filter.bpf` with the spied sections) of the modulated field;
    the checks of `MZM` come first -/
theorem mzm_bw_is_bpf_after_mzm (pol : PolSel) (bias Vpi ld er : ℝ) (d : Drive ℝ) (secs : List (Filter.Sec ℝ)) (e : ℕ)
    (x : Modulators.Field (Cx ℝ)) :
    mzmBW pol bias Vpi ld er d secs e x =
      match mzm pol bias Vpi ld er d x with
      | .error err => .error err
      | .ok y => Filter.bpf secs e y.toSig := by
  unfold mzmBW
  cases mzm pol bias Vpi ld er d x <;> rfl

/-- signal and noise rows are filtered alike and **the length is preserved**: every output row is
    `filtCoreCx secs e` of the corresponding modulated row -/
theorem mzm_bw_rows (pol : PolSel) (bias Vpi ld er : ℝ) (d : Drive ℝ) (secs : List (Filter.Sec ℝ)) (e : ℕ)
    (x y : Modulators.Field (Cx ℝ)) (hx : x.WF) (he : e < x.sig.len) (h : mzm pol bias Vpi ld er d x = .ok y) :
    ∃ o, mzmBW pol bias Vpi ld er d secs e x = .ok o ∧
      o.rows = y.sig.toList.map (Filter.filtCoreCx secs e) ∧
      o.noise = y.noise.map (fun r => r.toList.map (Filter.filtCoreCx secs e)) ∧
      (∀ row ∈ o.rows, row.length = x.sig.len) ∧ ∀ nz, o.noise = some nz → ∀ row ∈ nz, row.length = x.sig.len := by
  have hy := mzm_shaped hx.shaped h
  refine ⟨_, by rw [mzm_bw_is_bpf_after_mzm, h]; exact bpf_toSig secs hy he, rfl, rfl, length_filt_toList secs hy.1 he, ?_⟩
  intro nz hnz
  obtain ⟨r, hr, rfl⟩ := Option.map_eq_some_iff.1 hnz
  exact length_filt_toList secs (hy.2 r hr) he

/-- **`MZM(·, u, …, BW)` is linear in the optical field**: for two fields of the same layout (same polarisation count and
    length, noise on both or on neither) and complex `a`, `b`, the device applied to `a·x₁ + b·x₂` gives
    `a·MZM(x₁) + b·MZM(x₂)`, rows of signal and of noise alike -/
theorem mzm_bw_linear (pol : PolSel) (hpol : pol ≠ .other) (bias Vpi ld er : ℝ) (d : Drive ℝ)
    (secs : List (Filter.Sec ℝ)) (e : ℕ) (a b : Cx ℝ) (x1 x2 : Modulators.Field (Cx ℝ)) (hx1 : x1.WF) (hx2 : x2.WF)
    (hs : RowsRel (fun _ _ => True) x1.sig x2.sig)
    (hn : match x1.noise, x2.noise with
      | some n1, some n2 => RowsRel (fun _ _ => True) n1 n2
      | none, none => True
      | _, _ => False)
    (hd : d.samples.length = x1.sig.len ∨ d.samples.length = 1) (he : e < x1.sig.len) :
    ∃ o1 o2, mzmBW pol bias Vpi ld er d secs e x1 = .ok o1 ∧ mzmBW pol bias Vpi ld er d secs e x2 = .ok o2 ∧
      mzmBW pol bias Vpi ld er d secs e (Field.lin a b x1 x2) = .ok (sigLin a b o1 o2) := by
  have hrel : FieldRel (fun _ _ => True) x1 x2 := ⟨hs, by revert hn; cases x1.noise <;> cases x2.noise <;> exact id⟩
  have s2 : x2.Shaped x1.sig.len := Rows.len_of_shaped ((hs.shaped_iff _).1 hx1.1) ▸ hx2.shaped
  refine ⟨_, _, mzmBW_ok hx1.shaped hpol hd he, mzmBW_ok s2 hpol hd he, ?_⟩
  rw [mzmBW_ok (hx1.shaped.lin a b s2) hpol hd he, Field.map_lin a b _ (mzmRows_lin pol _ a b)]
  exact congrArg _ (filtSig_lin secs e a b (hrel.map fun _ _ => rowsRel_mzmRows_congr (Q := fun _ _ => True)
    (fun _ _ _ _ _ _ => trivial) trivial pol (List.forall₂_same.2 fun _ _ => trivial)))

/-- a field not longer than the filter's padding is rejected with `ValueError` (scipy's `sosfiltfilt` length check) -/
theorem mzm_bw_short (pol : PolSel) (bias Vpi ld er : ℝ) (d : Drive ℝ) (secs : List (Filter.Sec ℝ)) (e : ℕ)
    (x y : Modulators.Field (Cx ℝ)) (hx : x.WF) (he : x.sig.len ≤ e) (h : mzm pol bias Vpi ld er d x = .ok y) :
    mzmBW pol bias Vpi ld er d secs e x = .error .ValueError := by
  rw [mzm_bw_is_bpf_after_mzm, h]
  exact bpf_toList_short secs (mzm_shaped hx.shaped h).1 he _

/-- non-vacuity of `mzm_bw_linear` / `mzm_bw_rows` -/
example : ∃ o1 o2, mzmBW (R := ℝ) .x 0 5 0 26 (.scalar 1) [⟨1, 0, 0, 0, 0, 0, 0⟩] 1
      ⟨.two [⟨1, 0⟩, ⟨0, 1⟩, ⟨2, 2⟩] [⟨0, 0⟩, ⟨1, 1⟩, ⟨3, 0⟩], some (.two [⟨1, 1⟩, ⟨0, 0⟩, ⟨1, 0⟩] [⟨0, 1⟩, ⟨0, 1⟩, ⟨0, 1⟩])⟩ = .ok o1 ∧
    mzmBW (R := ℝ) .x 0 5 0 26 (.scalar 1) [⟨1, 0, 0, 0, 0, 0, 0⟩] 1
      ⟨.two [⟨0, 0⟩, ⟨5, 1⟩, ⟨1, 2⟩] [⟨1, 0⟩, ⟨1, 0⟩, ⟨0, 0⟩], some (.two [⟨2, 1⟩, ⟨0, 3⟩, ⟨1, 0⟩] [⟨0, 0⟩, ⟨0, 1⟩, ⟨1, 1⟩])⟩ = .ok o2 ∧
    mzmBW (R := ℝ) .x 0 5 0 26 (.scalar 1) [⟨1, 0, 0, 0, 0, 0, 0⟩] 1
      (Field.lin ⟨2, 1⟩ ⟨0, -1⟩
        ⟨.two [⟨1, 0⟩, ⟨0, 1⟩, ⟨2, 2⟩] [⟨0, 0⟩, ⟨1, 1⟩, ⟨3, 0⟩], some (.two [⟨1, 1⟩, ⟨0, 0⟩, ⟨1, 0⟩] [⟨0, 1⟩, ⟨0, 1⟩, ⟨0, 1⟩])⟩
        ⟨.two [⟨0, 0⟩, ⟨5, 1⟩, ⟨1, 2⟩] [⟨1, 0⟩, ⟨1, 0⟩, ⟨0, 0⟩], some (.two [⟨2, 1⟩, ⟨0, 3⟩, ⟨1, 0⟩] [⟨0, 0⟩, ⟨0, 1⟩, ⟨1, 1⟩])⟩)
      = .ok (sigLin ⟨2, 1⟩ ⟨0, -1⟩ o1 o2) :=
  mzm_bw_linear .x (by decide) 0 5 0 26 (.scalar 1) _ 1 _ _ _ _
    ⟨⟨rfl, rfl⟩, by intro r hr; cases hr; exact ⟨by simp, by simp⟩⟩
    ⟨⟨rfl, rfl⟩, by intro r hr; cases hr; exact ⟨by simp, by simp⟩⟩
    ⟨by simp, by simp⟩ ⟨by simp, by simp⟩ (Or.inr rfl) (by decide)

/-- the rotation factor is `exp(j·π·u/Vπ)` -/
theorem pm_phase (Vpi u : ℝ) (a : Cx ℝ) :
    (a * pmRot Vpi u).toC = a.toC * Complex.exp (((Real.pi * u / Vpi : ℝ) : ℂ) * Complex.I) := by
  rw [Cx.toC_mul, pmRot, Cx.toC_cis, pmPhase_real]

/-- every output sample (signal and noise, every row) is the input sample times `exp(jπu_k/Vπ)` -/
theorem pm_rows (Vpi : ℝ) (d : Drive ℝ) (x out : Modulators.Field (Cx ℝ)) (h : pm Vpi d x = .ok out) :
    ∃ us, pmDrive x.sig.len d = .ok us ∧ us.length = x.sig.len ∧
      out.sig = x.sig.map (fun row => List.zipWith (fun a u => a * pmRot Vpi u) row us) ∧
      out.noise = x.noise.map (fun r => r.map (fun row => List.zipWith (fun a u => a * pmRot Vpi u) row us)) := by
  obtain ⟨us, hus, hl, rfl⟩ := pm_ok_inv h
  exact ⟨us, hus, hl, by rw [pmRows_eq], by rw [pmRows_eq]⟩

/-- **PM leaves the instantaneous power of the total field (signal + noise) unchanged**, every sample of every row -/
theorem pm_power (Vpi : ℝ) (d : Drive ℝ) (x out : Modulators.Field (Cx ℝ)) (hx : x.WF) (h : pm Vpi d x = .ok out) :
    RowsRel (fun o i => o.normSq = i.normSq) out.total x.total := by
  obtain ⟨us, hus, hl, rfl⟩ := pm_ok_inv h
  rw [Field.total_map _ (pmRows_add Vpi us)]
  exact rowsRel_pmRows Vpi hl hx.shaped.total

/-- power of signal and of noise separately is unchanged as well -/
theorem pm_power_parts (Vpi : ℝ) (d : Drive ℝ) (x out : Modulators.Field (Cx ℝ)) (hx : x.WF) (h : pm Vpi d x = .ok out) :
    FieldRel (fun o i => o.normSq = i.normSq) out x := by
  obtain ⟨us, hus, hl, rfl⟩ := pm_ok_inv h
  exact fieldRel_of_rows_self hx.shaped _ fun r hr => rowsRel_pmRows Vpi hl hr

set_option linter.unusedVariables false in
/-- **PM composes additively**, general form: whatever containers carry the drives `a`, `b` and `a+b` -/
theorem pm_add (Vpi : ℝ) (d1 d2 d3 : Drive ℝ) (x y : Modulators.Field (Cx ℝ)) (as bs : List ℝ) (hx : x.WF)
    (h1 : pmDrive x.sig.len d1 = .ok as) (h2 : pmDrive x.sig.len d2 = .ok bs)
    (h3 : pmDrive x.sig.len d3 = .ok (List.zipWith (· + ·) as bs))
    (hy : pm Vpi d1 x = .ok y) : pm Vpi d2 y = pm Vpi d3 x := by
  rw [pm_eq_ok h1] at hy
  cases hy
  have hl := pmDrive_length h1
  have hlen : (pmRows Vpi as x.sig).len = x.sig.len := len_pmRows Vpi hl
  rw [pm_eq_ok (x := x.map (pmRows Vpi as)) (us := bs) (hlen.symm ▸ h2), pm_eq_ok h3, Field.map_map]
  exact congrArg (fun f => Except.ok (x.map f)) (funext (pmRows_pmRows Vpi as bs))

/-- scalars: `PM(PM(x, a), b) = PM(x, a + b)` -/
theorem pm_add_scalar (Vpi a b : ℝ) (x y : Modulators.Field (Cx ℝ)) (hx : x.WF) (hy : pm Vpi (.scalar a) x = .ok y) :
    pm Vpi (.scalar b) y = pm Vpi (.scalar (a + b)) x :=
  pm_add Vpi (.scalar a) (.scalar b) (.scalar (a + b)) x y _ _ hx rfl rfl
    (by rw [pmDrive_scalar, List.zipWith_replicate, min_self]) hy

set_option linter.unusedVariables false in
/-- waveforms: `PM(PM(x, a), b) = PM(x, a + b)` for an ndarray `a` and `b` an ndarray or an electrical_signal -/
theorem pm_add_array (Vpi : ℝ) (as bs : List ℝ) (na nb : Option (List ℝ)) (x y : Modulators.Field (Cx ℝ)) (hx : x.WF)
    (ha : as.length = x.sig.len) (hb : bs.length = x.sig.len) (hy : pm Vpi (.array as) x = .ok y) :
    pm Vpi (.esig bs nb) y = pm Vpi (.array (List.zipWith (· + ·) as bs)) x ∧
      pm Vpi (.array bs) y = pm Vpi (.array (List.zipWith (· + ·) as bs)) x := by
  have h := pm_add Vpi (.array as) (.array bs) (.array (List.zipWith (· + ·) as bs)) x y as bs hx (pmDrive_array_ok ha) (pmDrive_array_ok hb)
    (pmDrive_array_ok (by simp [ha, hb])) hy
  -- an electrical_signal drive is read like the ndarray of its samples: the two statements unfold to the same
  exact ⟨h, h⟩

/-- scalar, ndarray and electrical_signal drives with the same samples give the same result; the noise part of an
    electrical_signal drive is ignored -/
theorem pm_drive_forms (Vpi v : ℝ) (us : List ℝ) (dn : Option (List ℝ)) (x : Modulators.Field (Cx ℝ)) :
    pm Vpi (.esig us dn) x = pm Vpi (.array us) x ∧
      pm Vpi (.scalar v) x = pm Vpi (.array (List.replicate x.sig.len v)) x :=
  ⟨rfl, by rw [pm_eq_ok (pmDrive_scalar _ v), pm_eq_ok (pmDrive_array_ok List.length_replicate)]⟩

/-- matching lengths are accepted -/
theorem pm_accepts (Vpi : ℝ) (us : List ℝ) (dn : Option (List ℝ)) (v : ℝ) (x : Modulators.Field (Cx ℝ)) (h : us.length = x.sig.len) :
    (∃ o, pm Vpi (.array us) x = .ok o) ∧ (∃ o, pm Vpi (.esig us dn) x = .ok o) ∧ ∃ o, pm Vpi (.scalar v) x = .ok o :=
  ⟨⟨_, pm_eq_ok (pmDrive_array_ok h)⟩, ⟨_, pm_eq_ok ((pmDrive_esig _ us dn).trans (pmDrive_array_ok h))⟩,
    ⟨_, pm_eq_ok (pmDrive_scalar _ v)⟩⟩

/-- mismatched lengths raise `ValueError` (ndarray and electrical_signal drives; no broadcasting of length 1 in PM) -/
theorem pm_length_mismatch (Vpi : ℝ) (us : List ℝ) (dn : Option (List ℝ)) (x : Modulators.Field (Cx ℝ)) (h : us.length ≠ x.sig.len) :
    pm Vpi (.array us) x = .error .ValueError ∧ pm Vpi (.esig us dn) x = .error .ValueError :=
  ⟨pm_eq_error (pmDrive_array_error h), pm_eq_error (pmDrive_array_error h)⟩

/-- **a LASER without RIN has `|E_k|² = P` at every sample**, for all recorded phase draws, every offset, every time grid;
    `P = 10^(p/10 − 3)` W -/
theorem laser_power (p fs : ℝ) (phase : Option (List ℝ)) (df : Option ℝ) (t : List ℝ) (E : List (Cx ℝ))
    (h : laser p phase none df fs t = .ok E) :
    E.length = t.length ∧ ∀ z ∈ E, z.normSq = (10 : ℝ) ^ (p / 10 - 3) := by
  obtain ⟨e1, e2, h1, h2, h3⟩ := laser_ok_inv h
  cases (laserStage2_none _ _).symm.trans h2
  have hE := laserStage3_ok rfl h3 (laserStage1_ok rfl h1 (forall₂_laser_e0 p rfl))
  exact ⟨hE.length_eq, List.forall_mem_of_forall₂_left hE⟩

/-- with RIN the power follows the recorded intensity draw exactly: `|E_k|² = P·(1 + r_k)` (phase noise and offset do not
    touch it); the draw is ≥ −1 whenever the call succeeds -/
theorem laser_power_rin (p fs : ℝ) (phase : Option (List ℝ)) (r : List ℝ) (df : Option ℝ) (t : List ℝ) (E : List (Cx ℝ))
    (h : laser p phase (some r) df fs t = .ok E) :
    (∀ v ∈ r, -1 ≤ v) ∧ List.Forall₂ (fun z v => z.normSq = (10 : ℝ) ^ (p / 10 - 3) * (1 + v)) E r := by
  obtain ⟨e1, e2, h1, h2, h3⟩ := laser_ok_inv h
  obtain ⟨hr, hge, f2⟩ := laserStage2_ok h2 fun hr => laserStage1_ok hr h1 (forall₂_laser_e0 p hr)
  exact ⟨hge, laserStage3_ok hr h3 f2⟩

/-- **spectral peak at df** (composition with the Fourier model of C02): a LASER without phase noise and without RIN, sampled on
    `t_j = j/fs` (`j < n`) with an on-grid offset `df = k0·fs/n` (`k0` an integer of either sign inside Nyquist), is accepted and
    its DFT (`Fourier.dftAt`, the definition numpy's `fft` is trusted to compute) has `|X_k|² = n²·P` in the single bin
    `k ≡ k0 (mod n)` — bin `k0` for `k0 ≥ 0`, bin `n + k0` for `k0 < 0`, i.e. frequency `df` in `fftfreq` order — and is
    exactly zero in every other bin.  Off-grid offsets and phase noise stay with the oracle (leakage / random walk). -/
theorem laser_spectral_peak (p fs : ℝ) (hfs : 0 < fs) (n : ℕ) (k0 : ℤ) (hk0 : 2 * |k0| < (n : ℤ)) :
    ∃ E, laser p none none (some ((k0 : ℝ) * fs / n)) fs (timeGrid n fs) = .ok E ∧ E.length = n ∧
      ∀ k, k < n → (Fourier.dftAt (Fourier.nth E) n k).normSq =
        if (k : ℤ) = k0 % (n : ℤ) then (n : ℝ) ^ 2 * (10 : ℝ) ^ (p / 10 - 3) else 0 := by
  have hn : (0 : ℝ) < n := by
    have : (0 : ℤ) < n := lt_of_le_of_lt (mul_nonneg zero_le_two (abs_nonneg k0)) hk0
    exact_mod_cast this
  have hny : |(k0 : ℝ) * fs / n| ≤ fs / 2 := by
    have h1 : (2 * |(k0 : ℝ)| : ℝ) < n := by exact_mod_cast hk0
    rw [abs_div, abs_mul, abs_of_pos hfs, abs_of_pos hn, div_le_div_iff₀ hn (by norm_num)]
    calc |(k0 : ℝ)| * fs * 2 = fs * (2 * |(k0 : ℝ)|) := by ring
      _ ≤ fs * n := mul_le_mul_of_nonneg_left h1.le hfs.le
  refine ⟨_, laser_cw_eq p fs _ _ hny, by rw [List.length_map, timeGrid, List.length_map, List.length_range], ?_⟩
  intro k hk
  rw [Cx.toC_normSq, dftAt_tone _ n k0 _ (fun j hj => nth_laser_cw p fs hfs.ne' n k0 j hj) k hk]
  split
  · rw [Complex.normSq_mul, Cx.toC_ofReal, Complex.normSq_ofReal, Complex.normSq_natCast, laserAmp_sq]; ring
  · exact map_zero _

/-- non-vacuity: 8 samples, offset −3 bins: the peak sits in bin 5 -/
example : ∃ E, laser (R := ℝ) 0 none none (some (((-3 : ℤ) : ℝ) * 16 / (8 : ℕ))) 16 (timeGrid 8 16) = .ok E ∧ E.length = 8 ∧
    ∀ k, k < 8 → (Fourier.dftAt (Fourier.nth E) 8 k).normSq =
      if (k : ℤ) = (-3) % ((8 : ℕ) : ℤ) then ((8 : ℕ) : ℝ) ^ 2 * (10 : ℝ) ^ ((0 : ℝ) / 10 - 3) else 0 :=
  laser_spectral_peak 0 16 (by norm_num) 8 (-3) (by decide)

/-- an offset beyond Nyquist is rejected with `ValueError`; inside Nyquist (no RIN) the call succeeds -/
theorem laser_nyquist (p fs f : ℝ) (phase : Option (List ℝ)) (t : List ℝ)
    (hph : ∀ d, phase = some d → d.length = t.length) :
    (fs / 2 < |f| → laser p phase none (some f) fs t = .error .ValueError) ∧
      (|f| ≤ fs / 2 → ∃ E, laser p phase none (some f) fs t = .ok E) := by
  obtain ⟨e1, he1⟩ := laserStage1_eq_ok (t.map fun _ => (Cx.ofReal (Gen.OptDev.laserAmp p) : Cx ℝ)) hph
  rw [laser_eq_of_stage1 he1, laserStage3_some]
  exact ⟨fun hf => if_pos hf, fun hf => ⟨_, if_neg (not_lt.2 hf)⟩⟩

/-- non-vacuity -/
example : ∃ E, laser (R := ℝ) 0 (some [1, -2, 3]) none (some 1) 4 [0, 1, 2] = .ok E :=
  (laser_nyquist 0 4 1 (some [1, -2, 3]) [0, 1, 2] (by intro d hd; cases hd; rfl)).2 (by norm_num)

end OptiVerif.Props.C06
