/-
C04 — PRBS emits the maximal-length sequence of its ITU polynomial and can be resumed.
In the model `Prbs.run`, the zero-seed replacement and `Prbs.prbs` are written by hand; the loop body, the tap table
and the seed expressions come from `Gen/Prbs.lean`.
-/
import OptiVerif.Lemmas.PrbsRun
import OptiVerif.Lemmas.PrbsCertified

namespace OptiVerif.Props.C04
open OptiVerif.Prbs OptiVerif.PrbsCert Function

/-- the tap table in the source is the documented ITU-T O.150 table `(n, [n, t])` -/
theorem taps_documented :
    Gen.Prbs.taps = [(7,7,6),(9,9,5),(11,11,9),(15,15,14),(20,20,3),(23,23,18),(31,31,28)] := by decide

theorem tapOffset_documented : Gen.Prbs.tapOffset = 1 := rfl

/-- the documented ITU-T O.150 pairs: order `n`, second tap `t` -/
def documented : List (Nat × Nat) := [(7,6),(9,5),(11,9),(15,14),(20,3),(23,18),(31,28)]

theorem lookup_documented (n t : Nat) (h : (n, t) ∈ documented) : lookup n = some (n, t) :=
  (by decide : ∀ r ∈ documented, lookup r.1 = some r) (n, t) h

theorem lookup_some_documented (n a b : Nat) (h : lookup n = some (a, b)) : a = n ∧ (n, b) ∈ documented :=
  (by decide : ∀ r ∈ Gen.Prbs.taps, r.2.1 = r.1 ∧ (r.1, r.2.2) ∈ documented) _ (mem_taps_of_lookup n a b h)

/-- unsupported orders are exactly those outside {7,9,11,15,20,23,31} -/
theorem lookup_none_iff (n : Nat) : lookup n = none ↔ n ∉ [7,9,11,15,20,23,31] := by
  rw [show [7,9,11,15,20,23,31] = Gen.Prbs.taps.map (·.1) from rfl, lookup, Option.map_eq_none_iff,
    List.find?_eq_none]
  simp only [List.mem_map, beq_iff_eq, not_exists, not_and]

/-- the loop body found in the source is the documented shift/feedback step -/
theorem loop_body_is_documented_step (n t s : Nat) :
    Prbs.step n n t s = ((s <<< 1) ||| (((s >>> (n-1)) ^^^ (s >>> (t-1))) &&& 1)) &&& (2^n - 1) :=
  congrFun (step_eq n t) s

/-- the emitted bit is the LSB of the state -/
theorem out_is_lsb (s : Nat) : Gen.Prbs.outBit s = s % 2 := by
  simp [Gen.Prbs.outBit, Nat.and_one_is_mod]

/-- bit j+1 of the next state is bit j of the current one (j+1 < n) -/
theorem shift_register_shift (n t s j : Nat) (hj : j + 1 < n) :
    (Prbs.step n n t s).testBit (j+1) = s.testBit j := by
  simp [step_eq, testBit_step, hj]

/-- bit 0 of the next state is the feedback bit (n-1) xor bit (t-1) -/
theorem shift_register_feedback (n t s : Nat) (hn : 1 ≤ n) :
    (Prbs.step n n t s).testBit 0 = (s.testBit (n-1) ^^ s.testBit (t-1)) := by
  rw [step_eq, testBit_step]
  simp [show 0 < n from hn]

/-- the output sequence extended to the `n` virtual predecessors given by the seed's bits:
    `a s m` for m ≥ 0 is the m-th emitted bit, `a s (-j)` is bit j of the seed -/
def a (n t s : Nat) (m : Int) : Bool :=
  if 0 ≤ m then ((Prbs.step n n t)^[m.toNat] s).testBit 0 else s.testBit (-m).toNat

theorem a_natCast (n t s m : Nat) : a n t s (m : Int) = ((Prbs.step n n t)^[m] s).testBit 0 := by
  simp [a]

theorem a_neg (n t s j : Nat) : a n t s (-(j:Int)) = s.testBit j := by
  unfold a
  split
  · obtain rfl : j = 0 := by omega
    rfl
  · simp

/-- bit j of the state after m steps is the (extended) output j steps earlier -/
theorem state_bit (n t s : Nat) (m j : Nat) (hj : j < n) :
    ((Prbs.step n n t)^[m] s).testBit j = a n t s ((m : Int) - j) := by
  induction j generalizing m with
  | zero => simp [a_natCast]
  | succ j ih =>
    cases m with
    | zero => rw [Nat.cast_zero, zero_sub, a_neg]; rfl
    | succ m =>
      rw [Function.iterate_succ_apply', shift_register_shift n t _ j hj, ih m (by omega)]
      congr 1; omega

/-- **the linear recurrence** `a[m] = a[m-n] xor a[m-t]` for every m ≥ 1 (1 ≤ t ≤ n), the seed's bits
    being the n virtual predecessors; `a[0]` is the seed's LSB. -/
theorem recurrence (n t s : Nat) (hn : 1 ≤ n) (ht : 1 ≤ t) (htn : t ≤ n) (m : Nat) (hm : 1 ≤ m) :
    a n t s m = (a n t s ((m:Int) - n) ^^ a n t s ((m:Int) - t)) := by
  obtain ⟨k, rfl⟩ : ∃ k, m = k + 1 := ⟨m - 1, by omega⟩
  rw [a_natCast, Function.iterate_succ_apply', shift_register_feedback n t _ hn,
    state_bit n t s k (n-1) (by omega), state_bit n t s k (t-1) (by omega)]
  congr 2 <;> omega

theorem first_output_is_seed_lsb (n t s : Nat) : a n t s 0 = s.testBit 0 := a_neg n t s 0

-- `hj` is not needed (`a_neg`)
set_option linter.unusedVariables false in
theorem predecessors_are_seed_bits (n t s j : Nat) (hj : 1 ≤ j) : a n t s (-(j:Int)) = s.testBit j :=
  a_neg n t s j

/-- the bits returned by the loop are a[0], a[1], … -/
theorem run_bits (n t L s : Nat) :
    (Prbs.run n n t L s).1 = (List.range L).map (fun i : Nat => (a n t s (i : Int)).toNat) := by
  rw [run_fst]
  exact List.map_congr_left fun i _ => by rw [a_natCast, out_is_lsb, Nat.toNat_testBit]; simp

/-- the emitted values are bits, for every length, order, taps and state -/
theorem run_emits_bits (n a b L s : Nat) : ∀ x ∈ (Prbs.run n a b L s).1, x = 0 ∨ x = 1 := by
  intro x hx
  rw [run_fst] at hx
  obtain ⟨i, _, rfl⟩ := List.mem_map.mp hx
  rw [out_is_lsb]
  omega

/-- the factor lists used in the certificates contain every prime divisor of 2^n - 1 -/
theorem primes_complete (n : Nat) (qs : List Nat)
    (h : (n, qs) ∈ [(7,[127]),(9,[7,73]),(11,[23,89]),(15,[7,31,151]),(20,[3,5,11,31,41]),
                     (23,[47,178481]),(31,[2147483647])]) :
    ∀ p, p.Prime → p ∣ 2^n - 1 → p ∈ qs := by
  obtain ⟨⟨n, t, qs⟩, hr, ⟨⟩⟩ := List.mem_map.mp (show (n, qs) ∈ table.map fun r => (r.1, r.2.2) from h)
  exact (table_sound n t qs hr).1

/-- **maximal period**: for each of the seven orders in the source's tap table, from *every* non-zero
    state the generator's state sequence has minimal period exactly 2^n - 1 (all 2^31-1 states of PRBS31
    included — by certificate, not enumeration). -/
theorem max_period (n a b : Nat) (h : lookup n = some (a, b)) (s : Nat) (hs0 : s ≠ 0) (hs : s < 2^n) :
    minimalPeriod (Prbs.step n a b) s = 2^n - 1 := by
  obtain ⟨rfl, hd⟩ := lookup_some_documented n a b h
  obtain ⟨⟨n, t, qs⟩, hr, ⟨⟩⟩ := List.mem_map.mp (show (a, b) ∈ table.map fun r => (r.1, r.2.1) from hd)
  rw [step_eq]
  exact (table_sound n t qs hr).2 s hs0 hs

/-- the generator visits all non-zero states in one cycle -/
theorem visits_all (n a b : Nat) (h : lookup n = some (a, b)) (s : Nat) (hs0 : s ≠ 0) (hs : s < 2^n) :
    (Finset.range (2^n - 1)).image (fun i => (Prbs.step n a b)^[i] s) = Finset.Ioo 0 (2^n) := by
  have hper := max_period n a b h s hs0 hs
  rw [(step_of_lookup n a b h).2] at hper ⊢
  exact image_iterate_step n b s hper hs0 hs

/-- **balance**: `2^(n-1)` ones in one period of the emitted bits -/
theorem ones_per_period (n a b : Nat) (h : lookup n = some (a, b)) (s : Nat) (hs0 : s ≠ 0) (hs : s < 2^n) :
    ((Prbs.run n a b (2^n - 1) s).1.filter (· = 1)).length = 2^(n-1) := by
  have hper := max_period n a b h s hs0 hs
  obtain ⟨hn, hstep⟩ := step_of_lookup n a b h
  rw [hstep] at hper
  rw [run_fst, hstep]
  have := PrbsCert.ones_per_period n b s hn hper hs0 hs
  -- `Finset.card` of the filtered range unfolds to the length of the filtered list
  rw [← this, List.filter_map, List.length_map]
  exact congrArg List.length (List.filter_congr fun i _ => by simp [out_is_lsb])

/-- **balance**: one period holds `2^(n-1) − 1` zeros — exactly one fewer than ones (the m-sequence balance property) -/
theorem zeros_per_period (n a b : Nat) (h : lookup n = some (a, b)) (s : Nat) (hs0 : s ≠ 0) (hs : s < 2^n) :
    ((Prbs.run n a b (2^n - 1) s).1.filter (· = 0)).length = 2^(n-1) - 1 := by
  have h1 := ones_per_period n a b h s hs0 hs
  have hlen := run_length n a b (2^n - 1) s
  have h0 : (Prbs.run n a b (2^n - 1) s).1.filter (· = 0) =
      (Prbs.run n a b (2^n - 1) s).1.filter (fun x => !decide (x = 1)) :=
    List.filter_congr fun x hx => by rcases run_emits_bits n a b _ s x hx with rfl | rfl <;> rfl
  have := List.length_eq_length_filter_add (l := (Prbs.run n a b (2^n - 1) s).1) (· = 1)
  have hp := Nat.two_pow_pred_mul_two (step_of_lookup n a b h).1
  rw [h0]
  omega

/-- the state sequence, and with it the emitted bits, repeats after 2^n-1 steps -/
theorem output_periodic (n a b : Nat) (h : lookup n = some (a, b)) (s : Nat) (hs0 : s ≠ 0) (hs : s < 2^n) (i : Nat) :
    (Prbs.step n a b)^[i + (2^n - 1)] s = (Prbs.step n a b)^[i] s := by
  have hp := max_period n a b h s hs0 hs
  have := isPeriodicPt_minimalPeriod (Prbs.step n a b) s
  rw [hp] at this
  rw [Function.iterate_add_apply, this]

/-- every reachable state is again a non-zero n-bit state -/
theorem state_range (n a b : Nat) (h : lookup n = some (a, b)) (s : Nat) (hs0 : s ≠ 0) (hs : s < 2^n) (k : Nat) :
    (Prbs.step n a b)^[k] s ≠ 0 ∧ (Prbs.step n a b)^[k] s < 2^n := by
  have hper := max_period n a b h s hs0 hs
  rw [(step_of_lookup n a b h).2] at hper ⊢
  exact ⟨iterate_step_ne_zero n b s (by omega) hs0 k, iterate_step_lt n b k s hs⟩

/-- seed normalisation: reduction mod 2^n (Python `%`: non-negative also for negative seeds),
    replaced by 1 with a warning iff congruent to 0 -/
theorem normSeed_some (n : Nat) (v : Int) :
    normSeed n (some v) = if v % 2^n = 0 then (1, true) else ((v % 2^n).toNat, false) := by
  simp only [normSeed, Gen.Prbs.seedMod]
  by_cases h : v % 2^n = 0
  · simp [h]
  · have : (v % 2^n).toNat ≠ 0 := by have := (emod_two_pow v n).1; omega
    simp [h, this]

theorem normSeed_none (n : Nat) (hn : 1 ≤ n) : normSeed n none = (2^n - 1, false) := by
  have : 2^n - 1 ≠ 0 := by have := Nat.one_lt_two_pow (n := n) (by omega); omega
  simp [normSeed, Gen.Prbs.seedDefault, Nat.one_shiftLeft, this]

/-- the initial state is always a non-zero n-bit state -/
theorem normSeed_range (n : Nat) (hn : 1 ≤ n) (seed : Option Int) :
    (normSeed n seed).1 ≠ 0 ∧ (normSeed n seed).1 < 2^n := by
  have h2 := Nat.one_lt_two_pow (n := n) (by omega)
  cases seed with
  | none => rw [normSeed_none n hn]; exact ⟨by omega, by omega⟩
  | some v =>
    rw [normSeed_some]
    split
    · exact ⟨one_ne_zero, h2⟩
    · exact ⟨by have := (emod_two_pow v n).1; omega, (emod_two_pow v n).2⟩

/-- a state already in range is taken as it is, without warning -/
theorem normSeed_of_state (n s : Nat) (hs0 : s ≠ 0) (hs : s < 2^n) : normSeed n (some (s:Int)) = (s, false) := by
  have : (s:Int) % 2^n = s := Int.emod_eq_of_lt (by positivity) (by exact_mod_cast hs)
  rw [normSeed_some, this, if_neg (by exact_mod_cast hs0)]
  simp

/-- validation: unsupported order or non-positive len ⇒ ValueError (and nothing else is rejected) -/
theorem validate_spec (n : Nat) (len seed : Option Int) :
    (prbs n len seed = .error .ValueError ↔ (lookup n = none ∨ ∃ l, len = some l ∧ l ≤ 0)) ∧
    (∀ e, prbs n len seed = .error e → e = .ValueError) := by
  unfold prbs prbs.body
  rcases normSeed n seed with ⟨s, w⟩
  rcases lookup n with _ | ⟨a, b⟩ <;> rcases len with _ | l <;> simp only
  · simp
  · split <;> simp
  · simp
  · split <;> simp [*]

/-- accepted request: the bits are `len` iterations of the loop from the normalised seed -/
theorem prbs_ok (n a b : Nat) (h : lookup n = some (a, b)) (l : Int) (hl : 0 < l) (seed : Option Int) :
    prbs n (some l) seed = .ok ⟨(run n a b l.toNat (normSeed n seed).1).1,
                               (run n a b l.toNat (normSeed n seed).1).2, (normSeed n seed).2⟩ := by
  unfold prbs
  rcases normSeed n seed with ⟨s, w⟩
  have : ¬ l ≤ 0 := by omega
  simp [this, prbs.body, h]

/-- **resumption**: generating l1+l2 bits in two calls, the second seeded with the state returned by the
    first, equals generating them in one call — for any split, any seed; no warning on resumption. -/
theorem resume (n a b : Nat) (h : lookup n = some (a, b)) (l1 l2 : Int) (h1 : 0 < l1) (h2 : 0 < l2)
    (seed : Option Int) (r1 r2 : Result)
    (e1 : prbs n (some l1) seed = .ok r1) (e2 : prbs n (some l2) (some (r1.state : Int)) = .ok r2) :
    prbs n (some (l1 + l2)) seed = .ok ⟨r1.bits ++ r2.bits, r2.state, r1.warned⟩ ∧ r2.warned = false := by
  obtain ⟨hs0, hs⟩ := normSeed_range n (step_of_lookup n a b h).1 seed
  have hst := state_range n a b h _ hs0 hs l1.toNat
  rw [← run_snd] at hst
  rw [prbs_ok n a b h l1 h1] at e1
  obtain rfl := Except.ok.inj e1
  rw [prbs_ok n a b h l2 h2, normSeed_of_state n _ hst.1 hst.2] at e2
  obtain rfl := Except.ok.inj e2
  rw [prbs_ok n a b h (l1 + l2) (by omega), show (l1 + l2).toNat = l1.toNat + l2.toNat by omega, run_add]
  exact ⟨rfl, rfl⟩

example : lookup 7 = some (7, 6) := by decide
example : (prbs 7 (some 10) none).toOption.map (·.bits) = some [1,0,0,0,0,0,0,1,0,0] := by decide
example : (prbs 7 (some 10) (some 124)).toOption.map (·.bits) = some [0,0,0,0,0,1,0,0,0,0] := by decide
example : ∃ r1 r2, prbs 7 (some 3) (some 5) = .ok r1 ∧ prbs 7 (some 4) (some (r1.state : Int)) = .ok r2 :=
  ⟨_, _, rfl, rfl⟩

end OptiVerif.Props.C04
