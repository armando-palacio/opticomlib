/-
C13 — analytic BER and receiver-noise formulas match closed forms and each other.

The objects are the generic definitions of `Model/Ber.lean` read at `R := ℝ` — the same definitions the driver runs at `Float`
against `ook.py`, `ppm.py`, `utils.py`.  The Gaussian tail is a parameter `Q` with `QSpec Q` (antitone, `Q x + Q (-x) = 1`,
`0 ≤ Q ≤ 1`); `gaussQ_spec` shows that the tail of the standard normal law satisfies it.  The scalar formulas of the receiver
model (both code paths: `average_voltages`/`noise_variances` and the inner function of `utils.theory_BER`), of
`optimum_threshold`, the grid sizes, EDFA's `P_ase` and PD's variances are translated from the source on every run
(`Gen/BerFormulas.lean`, `Gen/PdTable.lean`).  Physical constants `kB`, `e`, `h`, `c` are parameters.
-/
import OptiVerif.Lemmas.BerAlg
import OptiVerif.Lemmas.BerConv
import OptiVerif.Model.Pd

namespace OptiVerif.Props.C13
open OptiVerif.Ber OptiVerif.Gen

/-- the specification of `Q` is satisfiable: the Gaussian tail `x ↦ N(0,1)(x, ∞)` meets it -/
theorem gaussQ_spec : QSpec gQ := gQ_spec

/-- the grids searched for the threshold: 1000 points in `ook.py` / `ppm.py`, 5000 in `utils.theory_BER` -/
theorem grids_documented :
    BerFormulas.ookThresholdGrid = 1000 ∧ BerFormulas.ookTheoryGrid = 1000 ∧ BerFormulas.ppmThresholdGrid = 1000 ∧
      BerFormulas.ppmTheoryGrid = 1000 ∧ BerFormulas.utilsGrid = 5000 := ⟨rfl, rfl, rfl, rfl, rfl⟩

/-- the objective of the OOK threshold search at the midpoint is `Q(Δ/2s)`, `Δ = μ1 − μ0` (any `Q`) -/
theorem ook_equal_sigma_value (Q : ℝ → ℝ) (mu0 mu1 s : ℝ) :
    ookObj Q mu0 mu1 s s ((mu0 + mu1) / 2) = Q ((mu1 - mu0) / (2 * s)) := by
  rw [ookObj, half_real, show mu1 - (mu0 + mu1) / 2 = (mu1 - mu0) / 2 by ring,
    show (mu0 + mu1) / 2 - mu0 = (mu1 - mu0) / 2 by ring, div_div]
  ring

/-- the same for the summand minimised by `ook.theory_BER(mu, s, s)` (the case `mu0 = 0`) -/
theorem ook_theory_equal_sigma_value (Q : ℝ → ℝ) (mu s : ℝ) :
    (1 / 2 : ℝ) * ookSum Q mu s s (mu / 2) = Q (mu / (2 * s)) := by
  have h := ook_equal_sigma_value Q 0 mu s
  rwa [ookObj_zero, zero_add, sub_zero] at h

/-- for equal sigmas the objective is symmetric about the midpoint of the levels -/
theorem ook_objective_symmetric (Q : ℝ → ℝ) (mu0 mu1 s r : ℝ) :
    ookObj Q mu0 mu1 s s (mu0 + mu1 - r) = ookObj Q mu0 mu1 s s r := by
  rw [ookObj, ookObj, show mu1 - (mu0 + mu1 - r) = r - mu0 by ring, show mu0 + mu1 - r - mu0 = mu1 - r by ring, add_comm]

/-- for equal sigmas the grid searched by `THRESHOLD_EST` is symmetric about the midpoint of the levels, and the list of
    objective values over it is a palindrome (`QSpec`-free algebra).  That the minimising grid points are then symmetric about
    the midpoint is a consequence not stated here, nor is which of them `np.argmin` returns. -/
theorem ook_threshold_mid (Q : ℝ → ℝ) (mu0 mu1 s : ℝ) :
    (linspace mu0 mu1 BerFormulas.ookThresholdGrid).reverse =
        (linspace mu0 mu1 BerFormulas.ookThresholdGrid).map (fun r => mu0 + mu1 - r) ∧
      ((linspace mu0 mu1 BerFormulas.ookThresholdGrid).map (ookObj Q mu0 mu1 s s)).reverse =
        (linspace mu0 mu1 BerFormulas.ookThresholdGrid).map (ookObj Q mu0 mu1 s s) := by
  have hrev := linspace_reverse mu0 mu1 BerFormulas.ookThresholdGrid (by decide)
  refine ⟨hrev, ?_⟩
  rw [← List.map_reverse, hrev, List.map_map]
  exact List.map_congr_left fun r _ => ook_objective_symmetric Q mu0 mu1 s r

/-- every threshold grid lies in the interval it discretises -/
theorem grid_subset_interval (a b : ℝ) (hab : a ≤ b) (n : ℕ) : ∀ r ∈ linspace a b n, r ∈ Set.Icc a b :=
  linspace_mem_Icc a b hab n

/-- the minimum of any objective over the grid is ≥ every lower bound of the objective on the interval,
    hence ≥ its infimum there -/
theorem grid_min_ge_inf (f : ℝ → ℝ) (a b : ℝ) (hab : a ≤ b) (n : ℕ) (v : ℝ) (hv : minL ((linspace a b n).map f) = some v) :
    (∀ m, (∀ r ∈ Set.Icc a b, m ≤ f r) → m ≤ v) ∧ (BddBelow (f '' Set.Icc a b) → sInf (f '' Set.Icc a b) ≤ v) := by
  obtain ⟨r, hI, rfl⟩ := gridMin_attained hab hv
  exact ⟨fun m hm => hm r hI, fun hb => csInf_le hb ⟨r, hI, rfl⟩⟩

/-- `ook.theory_BER(mu, s0, s1)` is never below the true minimum over thresholds of the two-Gaussian error integral -/
theorem ook_theory_ge_inf (Q : ℝ → ℝ) (mu s0 s1 v : ℝ) (hmu : 0 ≤ mu) (hv : ookTheory Q mu s0 s1 = some v) :
    ∀ m, (∀ r ∈ Set.Icc 0 mu, m ≤ 1 / 2 * ookSum Q mu s0 s1 r) → m ≤ v := by
  intro m hm
  obtain ⟨w, hmin, rfl⟩ := ookTheory_some hv
  obtain ⟨r, hr, rfl⟩ := gridMin_attained hmu hmin
  exact hm r hr

/-- `ppm.theory_BER(…, 'hard')` is the symbol → bit factor applied to a value `w` that is ≥ every lower bound of the
    symbol-error probability over the thresholds in `[0, μ]` -/
theorem ppm_theory_hard_ge_inf (Q : ℝ → ℝ) (M : ℕ) (mu s0 s1 I v : ℝ) (hmu : 0 ≤ mu)
    (hv : ppmTheory Q M .hard mu s0 s1 I = .ok (some v)) :
    ∀ m, (∀ r ∈ Set.Icc 0 mu, m ≤ 1 - Q ((r - mu) / s1) * (1 - Q (r / s0)) ^ (M - 1)) →
      ∃ w, m ≤ w ∧ v = ppmFactorTheory M w := by
  intro m hm
  obtain ⟨w, hmin, rfl⟩ := ppmTheory_hard_some hv
  obtain ⟨r, hr, rfl⟩ := gridMin_attained hmu hmin
  exact ⟨_, hm r hr, rfl⟩

/-- the value returned by `BER_analizer('estimator')` is the grid minimum of its objective, attained at the returned
    threshold -/
theorem ook_estimator_is_grid_min (Q : ℝ → ℝ) (mu0 mu1 s0 s1 : ℝ) :
    ∃ t, ookThreshold Q mu0 mu1 s0 s1 = some t ∧ ookEstimator Q mu0 mu1 s0 s1 = some (ookObj Q mu0 mu1 s0 s1 t) ∧
      minL ((linspace mu0 mu1 BerFormulas.ookThresholdGrid).map (ookObj Q mu0 mu1 s0 s1)) = some (ookObj Q mu0 mu1 s0 s1 t) := by
  obtain ⟨t, ht⟩ := argminOn_isSome (ookObj Q mu0 mu1 s0 s1) (linspace mu0 mu1 BerFormulas.ookThresholdGrid)
    (List.ne_nil_of_mem (left_mem_linspace mu0 mu1 (by decide)))
  refine ⟨t, ht, ?_, (argminOn_spec _ _ t ht).2⟩
  simp only [ookEstimator, ookThreshold, ht, Option.map_some]

/-- **ber_bound, OOK**: `0 ≤ ook.theory_BER ≤ M/(2(M−1)) = 1`, and even `≤ 1/2` for `μ ≥ 0`, `s1 > 0` -/
theorem ook_theory_bounds {Q : ℝ → ℝ} (hQ : QSpec Q) (mu s0 s1 v : ℝ) (hv : ookTheory Q mu s0 s1 = some v) :
    0 ≤ v ∧ v ≤ 1 ∧ (0 ≤ mu → 0 < s1 → v ≤ 1 / 2) := by
  obtain ⟨w, hmin, rfl⟩ := ookTheory_some hv
  obtain ⟨⟨r, hr, rfl⟩, hle⟩ := minL_map_eq_some hmin
  obtain ⟨h0, h2⟩ := ookSum_bounds hQ mu s0 s1 r
  refine ⟨mul_nonneg one_half_pos.le h0, by linarith, fun hmu hs1 => ?_⟩
  -- the grid contains the point 0
  exact mul_le_of_le_one_right one_half_pos.le ((hle 0 (left_mem_linspace 0 mu (by decide))).trans (ookSum_zero_le hQ s0 hmu hs1))

/-- **ber_bound, PPM hard decision**: `0 ≤ ppm.theory_BER(…, 'hard') ≤ M/(2(M−1))` -/
theorem ppm_theory_hard_bounds {Q : ℝ → ℝ} (hQ : QSpec Q) (M : ℕ) (hM : 2 ≤ M) (mu s0 s1 I v : ℝ)
    (hv : ppmTheory Q M .hard mu s0 s1 I = .ok (some v)) : 0 ≤ v ∧ v ≤ (M : ℝ) / (2 * ((M : ℝ) - 1)) := by
  obtain ⟨w, hmin, rfl⟩ := ppmTheory_hard_some hv
  obtain ⟨⟨r, _, rfl⟩, _⟩ := minL_map_eq_some hmin
  exact ppmFactorTheory_mem hM (ppm_term_bounds hQ M ((r - mu) / s1) (r / s0))

/-- the exact integral of the integrand handed to `quad` does lie in `[0, √(2π)]` for every `Q` with `QSpec` -/
theorem soft_integral_bounds {Q : ℝ → ℝ} (hQ : QSpec Q) (M : ℕ) (d s0 s1 : ℝ) :
    0 ≤ ∫ x, softIntegrand Q M d s0 s1 x ∧ ∫ x, softIntegrand Q M d s0 s1 x ≤ Real.sqrt (2 * Real.pi) := by
  have hb := softIntegrand_bounds hQ M d s0 s1
  have hg : MeasureTheory.Integrable fun x : ℝ => Real.exp (-(1 / 2) * x ^ 2) := integrable_exp_neg_mul_sq (by norm_num)
  have hf : MeasureTheory.Integrable (softIntegrand Q M d s0 s1) :=
    hg.mono' (softIntegrand_measurable hQ M d s0 s1).aestronglyMeasurable
      (MeasureTheory.ae_of_all _ fun x => by rw [Real.norm_eq_abs, abs_of_nonneg (hb x).1]; exact (hb x).2)
  refine ⟨MeasureTheory.integral_nonneg fun x => (hb x).1,
    (MeasureTheory.integral_mono hf hg fun x => (hb x).2).trans_eq ?_⟩
  rw [integral_gaussian (1 / 2), div_div_eq_mul_div, div_one, mul_comm]

/-- **ber_bound, PPM soft decision**: whatever `quad` returns within `[0, √(2π)]` (`soft_integral_bounds`), the BER lies in
    `[0, M/(2(M−1))]` (both `theory_BER` and the estimator) -/
theorem ppm_soft_bounds (Q : ℝ → ℝ) (M : ℕ) (hM : 2 ≤ M) (mu0 mu1 s0 s1 I v : ℝ) (hI0 : 0 ≤ I) (hI1 : I ≤ Real.sqrt (2 * Real.pi)) :
    (ppmTheory Q M .soft mu1 s0 s1 I = .ok (some v) → 0 ≤ v ∧ v ≤ (M : ℝ) / (2 * ((M : ℝ) - 1))) ∧
      (ppmEstimator Q M .soft mu0 mu1 s0 s1 I = .ok (some v) → 0 ≤ v ∧ v ≤ (M : ℝ) / (2 * ((M : ℝ) - 1))) := by
  have hsf := softFrom_mem hI0 hI1
  constructor <;> intro h <;> obtain rfl := Option.some.inj (ok_of_guard h)
  · exact ppmFactorTheory_mem hM hsf
  · rw [ppmFactorEst_eq]
    exact ppmFactorTheory_mem hM hsf

/-- **ber_bound, PPM estimator (hard)**: `0 ≤ BER_analizer('estimator', decision='hard') ≤ M/(2(M−1))` -/
theorem ppm_estimator_hard_bounds {Q : ℝ → ℝ} (hQ : QSpec Q) (M : ℕ) (hM : 2 ≤ M) (mu0 mu1 s0 s1 I v : ℝ)
    (hv : ppmEstimator Q M .hard mu0 mu1 s0 s1 I = .ok (some v)) : 0 ≤ v ∧ v ≤ (M : ℝ) / (2 * ((M : ℝ) - 1)) := by
  rw [ppmEstimator_hard] at hv
  obtain ⟨o, _, ho⟩ := Except.map_eq_ok.mp hv
  obtain ⟨u, rfl, rfl⟩ := Option.map_eq_some_iff.mp ho
  rw [ppmObj_real, ppmFactorEst_eq]
  exact ppmFactorTheory_mem hM (ppm_term_bounds hQ M ((u - mu1) / s1) ((u - mu0) / s0))

set_option linter.unusedVariables false in
/-- **non-increasing in μ** (OOK): the grid points scale with μ (`r_k = c_k μ`, `0 ≤ c_k ≤ 1`), each summand is antitone in μ,
    hence so is the grid minimum `ook.theory_BER(μ, s0, s1)` -/
theorem ook_theory_antitone_mu {Q : ℝ → ℝ} (hQ : QSpec Q) (mu mu' s0 s1 v v' : ℝ) (hs0 : 0 < s0) (hs1 : 0 < s1)
    (h0 : 0 ≤ mu) (hle : mu ≤ mu') (hv : ookTheory Q mu s0 s1 = some v) (hv' : ookTheory Q mu' s0 s1 = some v') : v' ≤ v := by
  obtain ⟨w, hmin, rfl⟩ := ookTheory_some hv
  obtain ⟨w', hmin', rfl⟩ := ookTheory_some hv'
  have hww : w' ≤ w := by
    refine gridMin_antitone (f := fun mu => ookSum Q mu s0 s1) (fun c hc0 hc1 => ?_) hmin hmin'
    obtain ⟨e1, _, e2⟩ := levelArgs_mono hs0 hs1 hle hc0 hc1
    exact add_le_add (hQ.anti e1) (hQ.anti e2)
  linarith

set_option linter.unusedVariables false in
/-- **non-increasing in μ** (PPM, hard decision): as for OOK; the objective is 1 minus a product of two non-negative factors,
    each growing with μ -/
theorem ppm_theory_hard_antitone_mu {Q : ℝ → ℝ} (hQ : QSpec Q) (M : ℕ) (hM : 2 ≤ M) (mu mu' s0 s1 I I' v v' : ℝ)
    (hs0 : 0 < s0) (hs1 : 0 < s1) (h0 : 0 ≤ mu) (hle : mu ≤ mu') (hv : ppmTheory Q M .hard mu s0 s1 I = .ok (some v))
    (hv' : ppmTheory Q M .hard mu' s0 s1 I' = .ok (some v')) : v' ≤ v := by
  obtain ⟨w, hmin, rfl⟩ := ppmTheory_hard_some hv
  obtain ⟨w', hmin', rfl⟩ := ppmTheory_hard_some hv'
  have hww : w' ≤ w := by
    refine gridMin_antitone (f := fun mu r => 1 - Q ((r - mu) / s1) * (1 - Q (r / s0)) ^ (M - 1))
      (fun c hc0 hc1 => ?_) hmin hmin'
    obtain ⟨_, e1, e2⟩ := levelArgs_mono hs0 hs1 hle hc0 hc1
    have a1 : Q ((c * mu - mu) / s1) ≤ Q ((c * mu' - mu') / s1) := hQ.anti e1
    have b0 : 0 ≤ 1 - Q (c * mu / s0) := sub_nonneg.mpr (hQ.le_one _)
    have hpow : (1 - Q (c * mu / s0)) ^ (M - 1) ≤ (1 - Q (c * mu' / s0)) ^ (M - 1) :=
      pow_le_pow_left₀ b0 (sub_le_sub_left (hQ.anti e2) 1) _
    exact sub_le_sub_left (mul_le_mul a1 hpow (pow_nonneg b0 _) ((hQ.nonneg _).trans a1)) 1
  exact ppmFactorTheory_mono hM hww

/-- **shift_invariant** (OOK): adding `d` to both levels adds `d` to the threshold and leaves the estimated BER unchanged —
    the estimators depend on `μ1 − μ0`, `s0`, `s1` only -/
theorem ook_shift_invariant (Q : ℝ → ℝ) (mu0 mu1 s0 s1 d : ℝ) :
    ookThreshold Q (mu0 + d) (mu1 + d) s0 s1 = (ookThreshold Q mu0 mu1 s0 s1).map (· + d) ∧
      ookEstimator Q (mu0 + d) (mu1 + d) s0 s1 = ookEstimator Q mu0 mu1 s0 s1 := by
  have hthr : ookThreshold Q (mu0 + d) (mu1 + d) s0 s1 = (ookThreshold Q mu0 mu1 s0 s1).map (· + d) := by
    simp only [ookThreshold]
    rw [linspace_shift]
    exact argminOn_shift _ _ _ d (ookObj_shift Q mu0 mu1 s0 s1 d)
  refine ⟨hthr, ?_⟩
  simp only [ookEstimator, hthr, Option.map_map, Function.comp_def, ookObj_shift]

/-- **shift_invariant** (PPM threshold and hard-decision estimator; the soft-decision clause holds by construction, `I` being
    an argument of the model: the code reads the levels only through `I1 − I0`, see `ppm_soft_integrand_shift`) -/
theorem ppm_shift_invariant (Q : ℝ → ℝ) (M : ℕ) (mu0 mu1 s0 s1 d I : ℝ) :
    ppmThreshold Q M (mu0 + d) (mu1 + d) s0 s1 = (ppmThreshold Q M mu0 mu1 s0 s1).map (fun o => o.map (· + d)) ∧
      ppmEstimator Q M .hard (mu0 + d) (mu1 + d) s0 s1 I = ppmEstimator Q M .hard mu0 mu1 s0 s1 I ∧
      ppmEstimator Q M .soft (mu0 + d) (mu1 + d) s0 s1 I = ppmEstimator Q M .soft mu0 mu1 s0 s1 I := by
  have hthr : ppmThreshold Q M (mu0 + d) (mu1 + d) s0 s1 = (ppmThreshold Q M mu0 mu1 s0 s1).map (fun o => o.map (· + d)) := by
    simp only [ppmThreshold]
    split
    · rfl
    · rw [linspace_shift, argminOn_shift _ _ _ d (ppmObj_shift Q M mu0 mu1 s0 s1 d)]
      rfl
  refine ⟨hthr, ?_, rfl⟩
  rw [ppmEstimator_hard, ppmEstimator_hard, hthr]
  rcases ppmThreshold Q M mu0 mu1 s0 s1 with e | _ | u
  · rfl
  · rfl
  · simp [Except.map, ppmObj_shift]

/-- the integrand of the soft-decision estimator is built from `I1 − I0` only -/
theorem ppm_soft_integrand_shift (Q : ℝ → ℝ) (M : ℕ) (mu0 mu1 s0 s1 d x : ℝ) :
    softIntegrand Q M ((mu1 + d) - (mu0 + d)) s0 s1 x = softIntegrand Q M (mu1 - mu0) s0 s1 x := by
  have : mu1 + d - (mu0 + d) = mu1 - mu0 := by ring
  rw [this]

/-- **threshold_in_range**: the returned thresholds are grid points, hence in `[μ0, μ1]` -/
theorem threshold_in_range (Q : ℝ → ℝ) (M : ℕ) (mu0 mu1 s0 s1 t : ℝ) (h : mu0 ≤ mu1) :
    (ookThreshold Q mu0 mu1 s0 s1 = some t → mu0 ≤ t ∧ t ≤ mu1) ∧
      (ppmThreshold Q M mu0 mu1 s0 s1 = .ok (some t) → mu0 ≤ t ∧ t ≤ mu1) :=
  ⟨fun ht => linspace_mem_Icc mu0 mu1 h _ t (argminOn_spec _ _ t ht).1,
    fun ht => linspace_mem_Icc mu0 mu1 h _ t (argminOn_spec _ _ t (ok_of_guard ht)).1⟩

/-- **optimum_threshold_solves**, general branch: for `S0, S1 > 0`, `S0 ≠ S1`, `M ≥ 2` and a non-negative discriminant
    `(μ1−μ0)² + 2(S1−S0)·ln(√S1/√S0·(M−1)) ≥ 0` (the two weighted densities do cross), the value returned by
    `utils.optimum_threshold` solves `(M−1)·N(r;μ0,S0) = N(r;μ1,S1)` -/
theorem optimum_threshold_solves (mu0 mu1 S0 S1 : ℝ) (M : ℕ) (hS0 : 0 < S0) (hS1 : 0 < S1) (hne : S0 ≠ S1) (hM : 2 ≤ M)
    (hD : 0 ≤ (mu1 - mu0) * (mu1 - mu0) + 2 * (S1 - S0) * Real.log (Real.sqrt S1 / Real.sqrt S0 * ((M : ℝ) - 1))) :
    ((M : ℝ) - 1) * normalPdf (optimumThreshold mu0 mu1 S0 S1 M) mu0 S0 = normalPdf (optimumThreshold mu0 mu1 S0 S1 M) mu1 S1 := by
  apply crossing_of_quadratic hS0 hS1 (sub_pos.mpr (Nat.one_lt_cast.mpr hM))
  rw [optimumThreshold_of_ne M hne]
  apply crossing_root (sub_ne_zero.mpr hne.symm)
  rw [mul_pow, mul_pow, Real.sq_sqrt hS1.le, Real.sq_sqrt hS0.le, Real.sq_sqrt hD]

/-- non-vacuity of the hypotheses: `S0 = 1`, `S1 = 4`, `M = 4`, levels 0 and 3 -/
example : (0 : ℝ) ≤ (3 - 0) * (3 - 0) + 2 * (4 - 1) * Real.log (Real.sqrt 4 / Real.sqrt 1 * (((4 : ℕ) : ℝ) - 1)) := by
  have h4 : Real.sqrt 4 = 2 := by
    rw [show (4 : ℝ) = 2 ^ 2 by norm_num]; exact Real.sqrt_sq (by norm_num)
  rw [h4, Real.sqrt_one]
  have : 0 ≤ Real.log (2 / 1 * (((4 : ℕ) : ℝ) - 1)) := Real.log_nonneg (by norm_num)
  linarith

/-- **optimum_threshold_solves**, equal-variance branch: the returned value is `(μ0+μ1)/2 + S·ln(M−1)/(μ1−μ0)`, it solves
    the crossing equation, and for OOK (`M = 2`) it is the midpoint -/
theorem optimum_threshold_equal (mu0 mu1 S : ℝ) (M : ℕ) (hS : 0 < S) (hmu : mu0 ≠ mu1) (hM : 2 ≤ M) :
    optimumThreshold mu0 mu1 S S M = (mu0 + mu1) / 2 + S * Real.log ((M : ℝ) - 1) / (mu1 - mu0) ∧
      ((M : ℝ) - 1) * normalPdf (optimumThreshold mu0 mu1 S S M) mu0 S = normalPdf (optimumThreshold mu0 mu1 S S M) mu1 S ∧
      optimumThreshold mu0 mu1 S S 2 = (mu0 + mu1) / 2 := by
  refine ⟨optimumThreshold_self mu0 mu1 S M, ?_, ?_⟩
  · apply crossing_of_quadratic hS hS (sub_pos.mpr (Nat.one_lt_cast.mpr hM))
    rw [optimumThreshold_self, div_self (Real.sqrt_pos.mpr hS).ne', one_mul]
    -- with `t = S·ln(M−1)/(μ1−μ0)` the two squares differ by `2 t (μ1−μ0)`
    have ht := div_mul_cancel₀ (S * Real.log ((M : ℝ) - 1)) (sub_ne_zero.mpr hmu.symm)
    linear_combination (-2 * S) * ht
  · rw [optimumThreshold_self]
    norm_num

/-- **receiver_model_consistent**: the ON/OFF levels, the ASE offset and each of the four variance terms (thermal,
    signal–ASE, ASE–ASE, shot) computed inside `utils.theory_BER` are identical to what `average_voltages` /
    `noise_variances` compute, for amplified and unamplified receivers and all parameter values (`f0 = c/wavelength`) -/
theorem receiver_model_consistent (x : Rx ℝ) (pavg M er : ℝ) :
    let tb := tbLevels x pavg M er
    let av := averageVoltages x pavg M er
    tb.1 = av.1 ∧ tb.2.1 = av.2.1 ∧ tb.2.2.1 = av.2.2 ∧
      (∀ mu, tbTerms x tb.2.2.1 tb.2.2.2 mu = nvTerms x av.2.2 mu) ∧
      tbVariances x pavg M er = noiseVariances x pavg M er := by
  obtain ⟨kB, e, h, amp, f0, G, NF, BWopt, r, BWel, RL, T, NFel⟩ := x
  cases amp
  -- without amplifier only the spelling of the literals differs (`g = l = 1`, `mu_ASE = 0`) …
  · -- `((1 : ℕ) : ℝ)` is how the translated `average_voltages` spells 1: `rfl` compares the two code paths below
    have h1 : (ofRat BerFormulas.tbGNoAmp : ℝ) = ((1 : ℕ) : ℝ) := by simp [ofRat_real, BerFormulas.tbGNoAmp]
    have h2 : (ofRat BerFormulas.tbLNoAmp : ℝ) = ((1 : ℕ) : ℝ) := by simp [ofRat_real, BerFormulas.tbLNoAmp]
    have h3 : (ofRat BerFormulas.tbMuAseNoAmp : ℝ) = 0 := by simp [ofRat_real, BerFormulas.tbMuAseNoAmp]
    have h4 : (ofRat BerFormulas.paNoAmp : ℝ) = 0 := by simp [ofRat_real, BerFormulas.paNoAmp]
    have h5 : BerFormulas.avMuAse r (0 : ℝ) RL = 0 := by simp [BerFormulas.avMuAse]
    simp only [tbLevels, averageVoltages, tbVariances, noiseVariances, pAse, h1, h2, h3, h4, h5, Bool.false_eq_true, if_false]
    exact ⟨rfl, rfl, trivial, fun _ => rfl, rfl⟩
  -- … and with one the two code paths are translated to the same expressions, term by term
  · exact ⟨rfl, rfl, rfl, fun _ => rfl, rfl⟩

/-- the documented closed forms of that model for the amplified receiver: the mean power over the `M` slots is `p_avg` and the
    ON/OFF ratio is `er`; levels `r·g·p·R_L + μ_ASE`; thermal, signal–ASE, ASE–ASE and shot terms in V², `l = B_el/B_opt` -/
theorem receiver_model_documented (x : Rx ℝ) (pavg M er mu : ℝ) (hamp : x.amplify = true) (her : 0 < er) (hM : 1 ≤ M) :
    let av := averageVoltages x pavg M er
    let pon := BerFormulas.avPon (idbm pavg) M er
    (pon + (M - 1) * (pon / er)) / M = idbm pavg ∧
      av.2.2 = x.r * (idb x.NF * x.h * x.f0 * (idb x.G - 1) * x.BWopt) * x.RL ∧
      av.1 = x.r * idb x.G * (pon / er) * x.RL + av.2.2 ∧ av.2.1 = x.r * idb x.G * pon * x.RL + av.2.2 ∧
      nvTerms x av.2.2 mu = (4 * x.kB * x.T * x.BWel * x.RL * idb x.NFel, 2 * av.2.2 * (mu - av.2.2) * (x.BWel / x.BWopt),
        av.2.2 ^ 2 * (1 - x.BWel / x.BWopt / 2) * (x.BWel / x.BWopt), 2 * x.e * mu * x.BWel * x.RL) := by
  have hden : 1 + (M - 1) / er ≠ 0 := (add_pos_of_pos_of_nonneg one_pos (div_nonneg (sub_nonneg.mpr hM) her.le)).ne'
  refine ⟨?_, ?_, ?_, ?_, ?_⟩
  · have h : BerFormulas.avPon (idbm pavg) M er * (1 + (M - 1) / er) = idbm pavg * M := by
      simp only [BerFormulas.avPon, Nat.cast_one]
      exact div_mul_cancel₀ _ hden
    rw [div_eq_iff (one_pos.trans_le hM).ne', ← h]
    ring
  · simp only [averageVoltages, pAse, hamp, if_true, BerFormulas.avMuAse, BerFormulas.paAmp, Nat.cast_one]
  · simp only [averageVoltages, hamp, if_true, BerFormulas.avMu, BerFormulas.avG, BerFormulas.avPoff]
  · simp only [averageVoltages, hamp, if_true, BerFormulas.avMu, BerFormulas.avG]
  · simp only [nvTerms, hamp, if_true, BerFormulas.nvL, BerFormulas.nvTh, BerFormulas.nvSigAse, BerFormulas.nvAseAse,
      BerFormulas.nvSh, Nat.cast_ofNat, Nat.cast_one, pow_two]

/-- the two dB helpers are the same function (`10^(x/10)`) in both models -/
theorem idb_agree (x : ℝ) : (Pd.idb x : ℝ) = Ber.idb x := rfl

/-- **units_agree_pd**: PD's thermal and shot variances (A², over `B = fs/2`, formulas translated from `devices.PD`) times
    `R_L²` are the thermal and shot terms (V²) of the `utils` receiver model with `BW_el = fs/2`, the level being
    `μ = (photocurrent + dark current)·R_L` -/
theorem units_agree_pd (kB e T fs FndB Rl meanI iase idark : ℝ) (hR : Rl ≠ 0) :
    Pd.sigma2T kB T fs FndB Rl * Rl ^ 2 = BerFormulas.nvTh kB T (fs / 2) Rl (Pd.idb FndB) ∧
      PdTable.sN e meanI iase idark fs * Rl ^ 2 = BerFormulas.nvSh e ((meanI + iase + idark) * Rl) (fs / 2) Rl := by
  constructor
  · simp only [Pd.sigma2T, PdTable.sT, BerFormulas.nvTh]
    rw [div_mul_eq_mul_div, div_eq_iff hR]
    ring
  · simp only [PdTable.sN, BerFormulas.nvSh]
    ring

/-- **p_ase = EDFA's formula**: `utils.p_ase(True, wavelength, G, NF, BW_opt)` equals the ASE power `devices.EDFA` generates
    when `gv.f0 = c/wavelength` and the optical bandwidth is the simulation bandwidth `gv.fs` -/
theorem p_ase_eq_edfa (x : Rx ℝ) (c wavelength fs : ℝ) (hamp : x.amplify = true) (hf0 : x.f0 = BerFormulas.paF0 c wavelength)
    (hbw : x.BWopt = fs) : pAse x = BerFormulas.edfaPase (idb x.NF) x.h (c / wavelength) (idb x.G) fs := by
  simp only [pAse, hamp, if_true, BerFormulas.paAmp, BerFormulas.edfaPase, hf0, hbw, BerFormulas.paF0]

/-- **soft_M2**: with the Gaussian tail for `Q`, `ppm.theory_BER(μ, s0, s1, M=2, 'soft')` evaluated on the exact value of the
    integral it hands to `quad` is `Q(μ/√(s0²+s1²))` (`1 − Q(μ/σ) = P(s0·Z0 − s1·Z1 ≤ μ)` for two independent standard
    normals, `σ² = s0² + s1²`); the same holds for the soft-decision estimator with `μ = I1 − I0` -/
theorem soft_M2 (mu s0 s1 : ℝ) (hs0 : 0 < s0) (hs1 : 0 < s1) :
    softFrom (∫ x, softIntegrand gQ 2 mu s0 s1 x) = gQ (mu / Real.sqrt (s0 ^ 2 + s1 ^ 2)) ∧
      ppmTheory gQ 2 .soft mu s0 s1 (∫ x, softIntegrand gQ 2 mu s0 s1 x) = .ok (some (gQ (mu / Real.sqrt (s0 ^ 2 + s1 ^ 2)))) ∧
      ∀ mu0, ppmEstimator gQ 2 .soft mu0 (mu0 + mu) s0 s1 (∫ x, softIntegrand gQ 2 (mu0 + mu - mu0) s0 s1 x) =
        .ok (some (gQ (mu / Real.sqrt (s0 ^ 2 + s1 ^ 2)))) := by
  have h := softFrom_integral_M2 mu s0 s1 hs0 hs1
  have h2 : ((2 : ℕ) : ℝ) / (2 * (((2 : ℕ) : ℝ) - 1)) = 1 := by norm_num
  refine ⟨h, ?_, fun mu0 => ?_⟩
  · rw [ppmTheory_soft _ _ _ _ _ (by decide), ppmFactorTheory_eq, h2, mul_one, h]
  · rw [add_sub_cancel_left, ppmEstimator_soft _ _ _ _ _ _ (by decide), ppmFactorEst_eq, ppmFactorTheory_eq, h2, mul_one, h]

/-- clauses of C13 that are not theorems here (decided by the oracle on every run): soft ≤ hard for every `M ≥ 2`, stated
    here at every threshold `r ∈ ℝ` (more than "≤ the grid minimum"), and the location of the true minimum for equal sigmas -/
def C13_full_unproved : Prop :=
  (∀ mu s r : ℝ, 0 < s → 0 ≤ mu → gQ (mu / (2 * s)) ≤ 1 / 2 * ookSum gQ mu s s r) ∧
    (∀ (M : ℕ) (mu s0 s1 r : ℝ), 2 ≤ M → 0 < s0 → 0 < s1 → 0 ≤ mu →
      softFrom (∫ x, softIntegrand gQ M mu s0 s1 x) ≤ 1 - gQ ((r - mu) / s1) * (1 - gQ (r / s0)) ^ (M - 1))

end OptiVerif.Props.C13
