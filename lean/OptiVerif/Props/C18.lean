/-
C18 — ADC is a true n-bit quantiser; shortest_int returns the pair of order statistics `lag` apart of least width (up to the
relative tie tolerance), which covers `lag + 1` samples.
Models: `Quant.shortestIntP` / `Quant.shortestInt`, `Quant.quantise` / `Quant.adc` (Model/Quant.lean, exact `Rat`), with
the literals of the source (`100`, the relative tie tolerance `1e-10`, `//2`, `99.99`) translated into `Gen/Quant.lean`
on every run.

Only `adc_is_quantise` and `adc_unit_free_record` are about `adc`; the other `adc_*` theorems are about `quantise`, `code`
or `level` for an arbitrary range.  Where a statement needs a full-scale range it carries the guard `V_min < V_max`: a
constant record has none (the code divides 0 by 0 there); it is an excluded point (`quantise_degenerate`).
-/
import OptiVerif.Lemmas.Quant

namespace OptiVerif.Props.C18
open OptiVerif.Quant

theorem constants_documented :
    Gen.Quant.percentDivisor = 100 ∧ Gen.Quant.tieTol = 1 / 10 ^ 10 ∧ Gen.Quant.centralDivisor = 2 ∧
    Gen.Quant.adcPercent = 9999 / 100 := by
  refine ⟨rfl, ?_, rfl, rfl⟩
  unfold Gen.Quant.tieTol; norm_num

/-- `np.sort`: the working array is sorted and a rearrangement of the data -/
theorem sort_is_sorted_perm (data : List Rat) : (sort data).Pairwise (· ≤ ·) ∧ (sort data).Perm data :=
  ⟨sort_sorted data, sort_perm data⟩

/-- `lag = int(len(data) * percent/100)` is `⌊p·n/100⌋` for `p ≥ 0` -/
theorem lag_is_floor (n : Nat) (p : Rat) (hp : 0 ≤ p) :
    ((lagOf Gen.Quant.percentDivisor n p : Nat) : Int) = ⌊(n : Rat) * p / 100⌋ := by
  have hfl : (0 : Int) ≤ ⌊(n : Rat) * p / 100⌋ := Int.floor_nonneg.mpr (by positivity)
  exact Int.toNat_of_nonneg hfl

/-- the returned values are the order statistics `i` and `i + lag` of the data,
    so `lo ≤ hi` -/
theorem shortest_is_order_pair (div tol : Rat) (cdiv : Nat) (p : Rat) (data : List Rat) (lo hi : Rat)
    (h : shortestIntP div tol cdiv p data = .ok (lo, hi)) :
    ∃ i, ∃ h' : i + lagOf div data.length p < (sort data).length,
      lo = (sort data)[i]'(by omega) ∧ hi = (sort data)[i + lagOf div data.length p] ∧ lo ≤ hi := by
  obtain ⟨i, hi', h1, h2, _⟩ := pick_spec tol cdiv _ _ lo hi (shortestIntP_eq_ok_iff.mp h).2.2
  refine ⟨i, hi', h1, h2, ?_⟩
  rw [h1, h2]
  exact (sort_sorted data).sortedLE.getElem_le_getElem_of_le (Nat.le_add_right i _)

/-- no other pair of order statistics `lag` apart is closer together by more than the RELATIVE
    tie tolerance: `hi − lo ≤ (1 + tol) · w` for the width `w` of every such pair (`tol = 1e-10` in the source) -/
theorem shortest_minimal (div tol : Rat) (cdiv : Nat) (p : Rat) (data : List Rat) (lo hi : Rat) (htol : 0 ≤ tol)
    (h : shortestIntP div tol cdiv p data = .ok (lo, hi)) (j : Nat)
    (hj : j + lagOf div data.length p < (sort data).length) :
    hi - lo ≤ (1 + tol) * ((sort data)[j + lagOf div data.length p] - (sort data)[j]'(by omega)) := by
  obtain ⟨i, hi', h1, h2, m, ⟨k, hk, hmk⟩, hmin, hclose⟩ := pick_spec tol cdiv _ _ lo hi (shortestIntP_eq_ok_iff.mp h).2.2
  have hm0 : 0 ≤ m := hmk ▸ sub_nonneg.mpr ((sort_sorted data).sortedLE.getElem_le_getElem_of_le (Nat.le_add_right k _))
  rw [abs_of_nonneg hm0] at hclose
  have hj' := hmin j hj
  rw [h1, h2]
  calc (sort data)[i + lagOf div data.length p] - (sort data)[i]'(by omega) ≤ m + tol * m := hclose
    _ = (1 + tol) * m := by ring
    _ ≤ (1 + tol) * _ := mul_le_mul_of_nonneg_left hj' (add_nonneg zero_le_one htol)

/-- when some pair of order statistics `lag` apart coincides (width 0, e.g. heavy ties), the returned width is 0 too:
    ties are exact at zero width -/
theorem shortest_minimal_zero (div tol : Rat) (cdiv : Nat) (p : Rat) (data : List Rat) (lo hi : Rat) (htol : 0 ≤ tol)
    (h : shortestIntP div tol cdiv p data = .ok (lo, hi)) (j : Nat)
    (hj : j + lagOf div data.length p < (sort data).length)
    (hz : (sort data)[j + lagOf div data.length p] = (sort data)[j]'(by omega)) : hi = lo := by
  have hmin := shortest_minimal div tol cdiv p data lo hi htol h j hj
  obtain ⟨_, _, _, _, hle⟩ := shortest_is_order_pair div tol cdiv p data lo hi h
  rw [hz, sub_self, mul_zero] at hmin
  exact le_antisymm (sub_nonpos.mp hmin) hle

/-- when no other width lies strictly within the relative tolerance above the returned one, the returned width is the
    minimum -/
theorem shortest_minimal_exact (div tol : Rat) (cdiv : Nat) (p : Rat) (data : List Rat) (lo hi : Rat) (htol : 0 ≤ tol)
    (h : shortestIntP div tol cdiv p data = .ok (lo, hi)) (j : Nat)
    (hj : j + lagOf div data.length p < (sort data).length)
    (hgap : ∀ w, w = (sort data)[j + lagOf div data.length p] - (sort data)[j]'(by omega) →
      hi - lo ≤ w ∨ tol * w < hi - lo - w) :
    hi - lo ≤ (sort data)[j + lagOf div data.length p] - (sort data)[j]'(by omega) := by
  have := shortest_minimal div tol cdiv p data lo hi htol h j hj
  rcases hgap _ rfl with h' | h'
  · exact h'
  · linarith

/-- the closed interval `[lo, hi]` contains at least `lag + 1` of the samples -/
theorem shortest_covers (div tol : Rat) (cdiv : Nat) (p : Rat) (data : List Rat) (lo hi : Rat)
    (h : shortestIntP div tol cdiv p data = .ok (lo, hi)) :
    lagOf div data.length p + 1 ≤ data.countP (fun x => decide (lo ≤ x ∧ x ≤ hi)) := by
  obtain ⟨i, hi', h1, h2, _⟩ := shortest_is_order_pair div tol cdiv p data lo hi h
  rw [← (sort_perm data).countP_eq, h1, h2]
  exact count_between (sort_sorted data) i _ hi'

/-- the call succeeds for every percentage `p ≥ 0` with `lag < len(data)` (non-negative tolerance, central index `//2`) -/
theorem shortest_succeeds (div tol : Rat) (cdiv : Nat) (p : Rat) (data : List Rat) (hp : 0 ≤ p) (htol : 0 ≤ tol)
    (hc : 2 ≤ cdiv) (hl : lagOf div data.length p < data.length) :
    ∃ r, shortestIntP div tol cdiv p data = .ok r := by
  obtain ⟨r, hr⟩ := pick_ok tol cdiv (sort data) _ htol hc (by rw [sort_length]; exact hl)
  exact ⟨r, shortestIntP_eq_ok_iff.mpr ⟨hp, hl, hr⟩⟩

/-- `shortest_int(data, p)` with the source's `100`, `1e-10`, `//2` succeeds for `p ≥ 0` with `lag < len(data)` -/
theorem shortestInt_succeeds (p : Rat) (data : List Rat) (hp : 0 ≤ p)
    (hl : lagOf Gen.Quant.percentDivisor data.length p < data.length) : ∃ r, shortestInt p data = .ok r :=
  shortest_succeeds _ _ _ p data hp (by unfold Gen.Quant.tieTol; norm_num) (by decide) hl

/-- `lag ≥ len(data)` (p = 100, or empty data): numpy raises ValueError -/
theorem shortest_rejects (div tol : Rat) (cdiv : Nat) (p : Rat) (data : List Rat) (hp : 0 ≤ p)
    (hl : data.length ≤ lagOf div data.length p) : shortestIntP div tol cdiv p data = .error .ValueError := by
  unfold shortestIntP
  rw [if_neg (not_lt.mpr hp)]
  simp only [sort_length]
  rw [if_pos (by omega)]

/-- non-vacuity, on a record with ties of zero width at both ends: nine samples, 25 %.  The second example is on
    `pick` with the record sorted by hand: `sort` (merge sort) does not reduce under kernel evaluation. -/
example : ∃ r, shortestInt 25 [0, 0, 0, 5, 6, 7, 9, 9, 9] = .ok r :=
  shortestInt_succeeds 25 _ (by norm_num) (by decide +kernel)
example : pick Gen.Quant.tieTol Gen.Quant.centralDivisor [0, 0, 0, 5, 6, 7, 9, 9, 9] 2 = .ok (9, 9) := by decide +kernel

/-- `shortest_int` commutes with a change of units `x ↦ a·x + b`, `a > 0` — same acceptance, and the
    interval of the converted data is the converted interval -/
theorem shortest_unit_free (p a b : Rat) (ha : 0 < a) (data : List Rat) :
    shortestInt p (data.map (fun x => a * x + b)) =
      (shortestInt p data).map (fun r => (a * r.1 + b, a * r.2 + b)) := by
  simp only [shortestInt, shortestIntP, sort_map (affine_strictMono ha b), List.length_map]
  split_ifs
  · rfl
  · rfl
  · exact pick_map_aff _ _ a b ha _ _

/-- `shortest_int` depends only on the multiset of samples — any reordering of the record (a time
    reversal, a roll, a shuffle) gives the same interval and the same acceptance.  With `adc_is_quantise`, the ADC's full-scale
    range is therefore a function of the amplitude histogram alone. -/
theorem shortest_order_free (p : Rat) (data data' : List Rat) (h : data.Perm data') :
    shortestInt p data = shortestInt p data' := by
  unfold shortestInt shortestIntP
  rw [sort_perm_eq h]

/-- non-vacuity: a record and its reversal -/
example : shortestInt 50 [3, 1, 2, 10, 4, 5] = shortestInt 50 [5, 4, 10, 2, 1, 3] :=
  shortest_order_free 50 _ _ (List.reverse_perm _).symm

/-- the range estimate of `ADC` is `shortest_int(signal, 99.99)`, and the rest is the quantiser -/
theorem adc_is_quantise (signal : List Rat) (n : Nat) (ot : OType) (r : AdcOut) (h : adc signal n ot = .ok r) :
    ∃ vmin vmax, shortestInt Gen.Quant.adcPercent signal = .ok (vmin, vmax) ∧ vmin ≤ vmax ∧
      quantise vmin vmax n ot signal = .ok r := by
  obtain ⟨vmin, vmax, hs, hq⟩ := (adc_eq_ok_iff signal n ot r).mp h
  obtain ⟨i, _, h1, h2, hle⟩ := shortest_is_order_pair _ _ _ _ signal vmin vmax hs
  exact ⟨vmin, vmax, hs, hle, hq⟩

/-- the excluded point: a degenerate range is not quantised (0/0 in the code) -/
theorem quantise_degenerate (v : Rat) (n : Nat) (ot : OType) (signal : List Rat) (ho : ot ≠ .other) :
    quantise v v n ot signal = .error .Other := by
  unfold quantise
  rw [if_neg ho, if_pos rfl]

/-- one output sample per input sample -/
theorem adc_len (vmin vmax : Rat) (n : Nat) (ot : OType) (signal : List Rat) (r : AdcOut)
    (h : quantise vmin vmax n ot signal = .ok r) : r.out.length = signal.length ∧ r.codes.length = signal.length := by
  obtain ⟨-, -, -, rfl⟩ := quantise_eq_ok_iff.mp h
  simp only [List.length_map, and_self]

/-- every code is an integer in `[0, 2ⁿ − 1]` -/
theorem adc_codes_range (vmin vmax : Rat) (n : Nat) (ot : OType) (signal : List Rat) (r : AdcOut)
    (h : quantise vmin vmax n ot signal = .ok r) : ∀ c ∈ r.codes, 0 ≤ c ∧ c ≤ 2 ^ n - 1 := by
  obtain ⟨-, -, -, rfl⟩ := quantise_eq_ok_iff.mp h
  exact List.forall_mem_map.mpr fun s _ => code_range vmin vmax n s

/-- at most `2ⁿ` distinct output values (both output types) -/
theorem adc_levels (vmin vmax : Rat) (n : Nat) (ot : OType) (signal : List Rat) (r : AdcOut)
    (h : quantise vmin vmax n ot signal = .ok r) : r.out.toFinset.card ≤ 2 ^ n := by
  have hr := adc_codes_range vmin vmax n ot signal r h
  obtain ⟨-, -, -, rfl⟩ := quantise_eq_ok_iff.mp h
  exact distinct_map_codes_le _ n _ hr

/-- with `otype='v'` every output lies in `[V_min, V_max]` -/
theorem adc_within_fullscale (vmin vmax : Rat) (n : Nat) (signal : List Rat) (r : AdcOut) (hr : vmin < vmax)
    (h : quantise vmin vmax n .v signal = .ok r) : ∀ y ∈ r.out, vmin ≤ y ∧ y ≤ vmax := by
  obtain ⟨-, -, hn, rfl⟩ := quantise_eq_ok_iff.mp h
  refine List.forall_mem_map.mpr fun c hc => ?_
  have := adc_codes_range vmin vmax n .v signal _ h c hc
  exact level_within vmin vmax n (Nat.pos_of_ne_zero (hn rfl)) hr c this.1 this.2

/-- with `otype='v'` a sample inside `[V_min, V_max]` moves by at most half a quantisation step -/
theorem adc_in_range_half_step (vmin vmax : Rat) (n : Nat) (signal : List Rat) (r : AdcOut) (hr : vmin < vmax)
    (h : quantise vmin vmax n .v signal = .ok r) (k : Nat) (hk : k < signal.length)
    (h1 : vmin ≤ signal[k]) (h2 : signal[k] ≤ vmax) :
    ∃ hk' : k < r.out.length, |r.out[k] - signal[k]| ≤ (vmax - vmin) / ((2 ^ n - 1 : Int) : Rat) / 2 := by
  obtain ⟨-, -, hn, rfl⟩ := quantise_eq_ok_iff.mp h
  refine ⟨by simpa only [List.length_map] using hk, ?_⟩
  simp only [List.getElem_map]
  exact level_code_close vmin vmax n (Nat.pos_of_ne_zero (hn rfl)) _ hr h1 h2

/-- the same on the codes (`'n'`): the code is within one half of the sample's exact position in the code scale -/
theorem adc_in_range_half_code (vmin vmax : Rat) (n : Nat) (s : Rat) (hr : vmin < vmax) (h1 : vmin ≤ s) (h2 : s ≤ vmax) :
    |((code vmin vmax n s : Int) : Rat) - (s - vmin) / (vmax - vmin) * ((2 ^ n - 1 : Int) : Rat)| ≤ 1 / 2 := by
  rw [code_inside vmin vmax n s hr h1 h2]
  exact roundHalfEven_close _

/-- samples below the range get code 0 (level `V_min`), samples above it code `2ⁿ − 1` (level `V_max`) -/
theorem adc_saturates (vmin vmax : Rat) (n : Nat) (s : Rat) (hr : vmin < vmax) :
    (s < vmin → code vmin vmax n s = 0 ∧ level vmin vmax n (code vmin vmax n s) = vmin) ∧
    (vmax < s → code vmin vmax n s = 2 ^ n - 1 ∧ (1 ≤ n → level vmin vmax n (code vmin vmax n s) = vmax)) := by
  constructor
  · intro hs
    rw [code_low vmin vmax n s hr hs]
    exact ⟨rfl, level_zero vmin vmax n⟩
  · intro hs
    rw [code_high vmin vmax n s hr hs]
    exact ⟨rfl, fun hn => level_top vmin vmax n hn⟩

/-- the quantiser preserves order — a larger sample never receives a smaller code, nor (for `'v'`)
    a smaller level.  Holds for every sample, inside or outside the full-scale range. -/
theorem adc_monotone (vmin vmax : Rat) (n : Nat) (hr : vmin < vmax) (s s' : Rat) (h : s ≤ s') :
    code vmin vmax n s ≤ code vmin vmax n s' ∧
    (1 ≤ n → level vmin vmax n (code vmin vmax n s) ≤ level vmin vmax n (code vmin vmax n s')) := by
  have hc := code_mono vmin vmax n hr h
  exact ⟨hc, fun _ => level_mono vmin vmax n hr.le hc⟩

/-- the same over a whole record: the code sequence is ordered like the sample sequence -/
theorem adc_monotone_record (vmin vmax : Rat) (n : Nat) (ot : OType) (signal : List Rat) (r : AdcOut) (hr : vmin < vmax)
    (h : quantise vmin vmax n ot signal = .ok r) (j k : Nat) (hj : j < signal.length) (hk : k < signal.length)
    (hjk : signal[j] ≤ signal[k]) :
    ∃ (hj' : j < r.codes.length) (hk' : k < r.codes.length), r.codes[j] ≤ r.codes[k] := by
  obtain ⟨-, -, -, rfl⟩ := quantise_eq_ok_iff.mp h
  refine ⟨by simpa only [List.length_map] using hj, by simpa only [List.length_map] using hk, ?_⟩
  simp only [List.getElem_map]
  exact code_mono vmin vmax n hr hjk

/-- every one of the `2ⁿ` codes is attained — by its own level — and a level is a fixed point
    of the quantiser: converting an already converted sample again (same full scale) changes nothing. -/
theorem adc_requantise_fixed (vmin vmax : Rat) (n : Nat) (hn : 1 ≤ n) (hr : vmin < vmax) :
    (∀ c : Int, 0 ≤ c → c ≤ 2 ^ n - 1 → code vmin vmax n (level vmin vmax n c) = c) ∧
    (∀ s : Rat, level vmin vmax n (code vmin vmax n (level vmin vmax n (code vmin vmax n s))) =
      level vmin vmax n (code vmin vmax n s)) := by
  refine ⟨fun c h0 h1 => code_level vmin vmax n hn hr c h0 h1, fun s => ?_⟩
  have := code_range vmin vmax n s
  rw [code_level vmin vmax n hn hr _ this.1 this.2]

/-- the same over a whole record (`'v'`): quantising the output of the quantiser returns the same codes and levels -/
theorem adc_requantise_record (vmin vmax : Rat) (n : Nat) (signal : List Rat) (r : AdcOut) (hr : vmin < vmax)
    (h : quantise vmin vmax n .v signal = .ok r) :
    ∃ r', quantise vmin vmax n .v r.out = .ok r' ∧ r'.codes = r.codes ∧ r'.out = r.out := by
  have hrange := adc_codes_range vmin vmax n .v signal r h
  obtain ⟨ho, hne, hn, rfl⟩ := quantise_eq_ok_iff.mp h
  have hfix : ((signal.map (code vmin vmax n)).map (level vmin vmax n)).map (code vmin vmax n)
      = signal.map (code vmin vmax n) := by
    rw [List.map_map]
    refine (List.map_congr_left fun c hc => ?_).trans (List.map_id _)
    exact code_level vmin vmax n (Nat.pos_of_ne_zero (hn rfl)) hr c (hrange c hc).1 (hrange c hc).2
  exact ⟨_, quantise_eq_ok_iff.mpr ⟨ho, hne, hn, rfl⟩, hfix, congrArg (List.map (level vmin vmax n)) hfix⟩

set_option linter.unusedVariables false in
/-- a change of units `x ↦ a·x + b` (`a > 0`) applied to the samples and to the full-scale range
    leaves every code unchanged, and maps every level accordingly -/
theorem adc_unit_free (vmin vmax : Rat) (n : Nat) (a b : Rat) (ha : 0 < a) (hr : vmin < vmax) (s : Rat) :
    code (a * vmin + b) (a * vmax + b) n (a * s + b) = code vmin vmax n s ∧
    (1 ≤ n → level (a * vmin + b) (a * vmax + b) n (code (a * vmin + b) (a * vmax + b) n (a * s + b)) =
      a * level vmin vmax n (code vmin vmax n s) + b) := by
  have hcode : code (a * vmin + b) (a * vmax + b) n (a * s + b) = code vmin vmax n s := by
    rw [code_eq, code_eq, pos_affine vmin vmax n a b ha]
  exact ⟨hcode, fun _ => by rw [hcode, level_affine]⟩

/-- the whole converter is unit-free — `ADC(a·x + b, otype='n')` returns the codes of `ADC(x)`,
    with the full-scale range converted (`a > 0`, any record with `V_min < V_max`) -/
theorem adc_unit_free_record (signal : List Rat) (n : Nat) (a b : Rat) (ha : 0 < a) (r : AdcOut)
    (h : adc signal n .n = .ok r) (hr : r.vmin < r.vmax) :
    ∃ r', adc (signal.map (fun x => a * x + b)) n .n = .ok r' ∧ r'.codes = r.codes ∧ r'.out = r.out ∧
      r'.vmin = a * r.vmin + b ∧ r'.vmax = a * r.vmax + b := by
  obtain ⟨vmin, vmax, hs, hq⟩ := (adc_eq_ok_iff signal n .n r).mp h
  obtain ⟨ho, hne, hn, rfl⟩ := quantise_eq_ok_iff.mp hq
  have hs' := shortest_unit_free Gen.Quant.adcPercent a b ha signal
  rw [hs] at hs'
  have hcodes : (signal.map (fun x => a * x + b)).map (code (a * vmin + b) (a * vmax + b) n)
      = signal.map (code vmin vmax n) := by
    rw [List.map_map]
    exact List.map_congr_left fun s _ => (adc_unit_free vmin vmax n a b ha hr s).1
  exact ⟨_, (adc_eq_ok_iff ..).mpr ⟨_, _, hs', quantise_eq_ok_iff.mpr
    ⟨ho, (affine_strictMono ha b).injective.ne hne, hn, rfl⟩⟩, hcodes, congrArg (List.map Int.cast) hcodes, rfl, rfl⟩

/-- non-vacuity of `shortest_unit_free`: an accepted tied record, in volts and in millivolts + 5 -/
example : ∃ r, shortestInt 50 [3, 1, 2, 10, 4, 5] = .ok r ∧
    shortestInt 50 ([3, 1, 2, 10, 4, 5].map (fun x => 1000 * x + 5)) = .ok (1000 * r.1 + 5, 1000 * r.2 + 5) := by
  obtain ⟨r, hr⟩ := shortestInt_succeeds 50 [3, 1, 2, 10, 4, 5] (by norm_num) (by decide +kernel)
  exact ⟨r, hr, by rw [shortest_unit_free 50 1000 5 (by norm_num), hr]; rfl⟩

/-- non-vacuity: order preserved, levels are fixed points, volts ↦ millivolts + offset keeps the codes (3 bits) -/
example : (quantise 0 7 3 .n [-1, 0, 1/3, 1/2, 5/2, 7/2, 7, 9]).map (·.codes) = .ok [0, 0, 0, 0, 2, 4, 7, 7] ∧
    (quantise 5 7005 3 .n ([-1, 0, 1/3, 1/2, 5/2, 7/2, 7, 9].map (fun x => 1000 * x + 5))).map (·.codes)
      = .ok [0, 0, 0, 0, 2, 4, 7, 7] ∧
    (quantise 0 7 3 .v [0, 1, 2, 3, 4, 5, 6, 7]).map (·.out) = .ok [0, 1, 2, 3, 4, 5, 6, 7] := by
  decide +kernel

/-- rounding is half-to-even (`np.round`): ties go to the even code -/
example : roundHalfEven (1/2) = 0 ∧ roundHalfEven (3/2) = 2 ∧ roundHalfEven (5/2) = 2 ∧ roundHalfEven (-1/2) = 0 := by
  decide +kernel

/-- non-vacuity: a 3-bit conversion of 0…8 (`V_min = 0 < V_max = 8`) -/
example : (quantise 0 8 3 .n [0, 1, 2, 3, 4, 5, 6, 7, 8]).map (·.codes) = .ok [0, 1, 2, 3, 4, 4, 5, 6, 7] := by
  decide +kernel

end OptiVerif.Props.C18
