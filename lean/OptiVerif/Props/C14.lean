/-
C14 — the global grid `gv` stays consistent over any history of `gv(...)` / `gv.clean()` calls; custom attributes persist
until `clean()`; no function of devices / ppm / ook / utils writes to `gv` in its own text (static table).
`Gen/Gv.lean` (the defaults) and `Gen/GvWriters.lean` (the translator's scan) are regenerated from the source on every run.

NOT theorems (runtime monitors of the harness, labelled partial): devices leave gv and their operands' sample data
unchanged at run time, seeded re-runs are bit-identical, results never alias arguments, order independence.
-/
import Mathlib.Analysis.SpecialFunctions.Trigonometric.Basic
import OptiVerif.Lemmas.Gv
import OptiVerif.Gen.GvWriters

namespace OptiVerif.Props.C14
open OptiVerif.Gv

/-- the defaults named in the attribute docstrings of `__init__` (typing.py:120-128: "``16`` by default", ``1e9``, ``1550e-9``) -/
theorem defaults_documented :
    Gen.Gv.initSps = 16 ∧ Gen.Gv.initR = 1000000000 ∧ Gen.Gv.initWavelength = 1550 / 1000000000 ∧
    Gen.Gv.cleanSps = 16 ∧ Gen.Gv.cleanR = 1000000000 ∧ Gen.Gv.cleanWavelength = 1550 / 1000000000 ∧
    Gen.Gv.callWavelength = 1550 / 1000000000 ∧
    Gen.Gv.cleanKeeps = ["sps", "R", "fs", "dt", "wavelength", "f0", "N", "t", "w", "dw"] := by
  refine ⟨rfl, ?_, ?_, rfl, ?_, ?_, ?_, rfl⟩ <;>
    norm_num [Gen.Gv.initR, Gen.Gv.initWavelength, Gen.Gv.cleanR, Gen.Gv.cleanWavelength, Gen.Gv.callWavelength]

/-- `sps` is an integer by its type -/
def RateInv (s : State) : Prop := s.fs = s.R * s.sps ∧ s.fs ≠ 0 ∧ s.dt = 1 / s.fs

def WlInv (s : State) : Prop := s.wavelength ≠ 0 ∧ s.f0 = cLight / s.wavelength

/-- whenever a slot count `N` is in effect, `t`, `dw`, `w` are the grids of `N·sps` points computed from the values NOW in
    force (`t = linspace(0, N·sps·dt, N·sps)`, `dw = 2π·fs/(N·sps)`, `w = 2π·fftshift(fftfreq(N·sps))·fs`, the last two stored as
    coefficients of π); without a slot count there is no (stale) grid -/
def GridInv (s : State) : Prop :=
  match s.N with
  | none => s.t = none ∧ s.dwPi = none ∧ s.wPi = none
  | some n =>
    0 < n * s.sps ∧
    s.t = some (linspace (((n * s.sps : ℤ) : ℚ) * s.dt) (n * s.sps).toNat) ∧
    s.dwPi = some (2 * s.fs / ((n * s.sps : ℤ) : ℚ)) ∧
    s.wPi = some (wgrid (n * s.sps).toNat s.fs)

def Inv (s : State) : Prop := RateInv s ∧ WlInv s ∧ GridInv s

theorem Inv.grid {s : State} {n : ℤ} (h : Inv s) (hN : s.N = some n) :
    0 < n * s.sps ∧ s.t = some (linspace (((n * s.sps : ℤ) : ℚ) * s.dt) (n * s.sps).toNat) ∧
      s.dwPi = some (2 * s.fs / ((n * s.sps : ℤ) : ℚ)) ∧ s.wPi = some (wgrid (n * s.sps).toNat s.fs) := by
  have hg := h.2.2
  rwa [GridInv, hN] at hg

/-- what `Inv` says about the grids in the statement's words: `t` and `w` have `N·sps` points -/
theorem inv_grid_points {s : State} {n : ℤ} (h : Inv s) (hN : s.N = some n) :
    ∃ t w, s.t = some t ∧ s.wPi = some w ∧ (t.length : ℤ) = n * s.sps ∧ (w.length : ℤ) = n * s.sps := by
  obtain ⟨hpos, ht, -, hw⟩ := h.grid hN
  refine ⟨_, _, ht, hw, ?_, ?_⟩
  · rw [length_linspace]; exact Int.toNat_of_nonneg hpos.le
  · rw [length_wgrid]; exact Int.toNat_of_nonneg hpos.le

/-- under `Inv`, `t` starts at 0 and ends at `N·sps·dt` (numpy's `linspace(…, endpoint=True)` convention of the library).  `h2` is
    needed for the last point only: a one-point grid is `[0]`, as `np.linspace(0, stop, 1)` is -/
theorem inv_t_ends {s : State} {n : ℤ} (h : Inv s) (hN : s.N = some n) (h2 : 2 ≤ n * s.sps) :
    ∃ t, s.t = some t ∧ t[0]? = some 0 ∧ t[(n * s.sps).toNat - 1]? = some (((n * s.sps : ℤ) : ℚ) * s.dt) := by
  have := linspace_ends (((n * s.sps : ℤ) : ℚ) * s.dt) (n * s.sps).toNat (by omega)
  exact ⟨_, (h.grid hN).2.1, this.1, this.2⟩

/-- under `Inv`, `dw = 2π·fs/(N·sps)` with the real number π -/
theorem inv_dw_real {s : State} {n : ℤ} (h : Inv s) (hN : s.N = some n) :
    ∃ c : ℚ, s.dwPi = some c ∧ (c : ℝ) * Real.pi = 2 * Real.pi * (s.fs : ℝ) / ((n : ℝ) * (s.sps : ℝ)) := by
  refine ⟨_, (h.grid hN).2.2.1, ?_⟩
  push_cast
  ring

/-- under `Inv`, `w[k] = 2π·(k − N·sps//2)/(N·sps)·fs`, i.e. `2π·fftshift(fftfreq(N·sps))·fs` on the CURRENT `fs` -/
theorem inv_w_real {s : State} {n : ℤ} (h : Inv s) (hN : s.N = some n) (k : ℕ) (hk : (k : ℤ) < n * s.sps) :
    ∃ w c, s.wPi = some w ∧ w[k]? = some c ∧
      (c : ℝ) * Real.pi =
        2 * Real.pi * (((k : ℤ) - (((n * s.sps).toNat / 2 : ℕ) : ℤ) : ℤ) : ℝ) / (((n * s.sps).toNat : ℕ) : ℝ) * (s.fs : ℝ) := by
  refine ⟨_, _, (h.grid hN).2.2.2, getElem?_wgrid _ _ k (by omega), ?_⟩
  push_cast
  ring

/-- the numbers: 16 samples per slot, 1 GHz, 16 GSa/s, 62.5 ps, 1550 nm -/
theorem init_values :
    init.sps = 16 ∧ init.R = 1000000000 ∧ init.fs = 16000000000 ∧ init.dt = 1 / 16000000000 ∧
    init.wavelength = 1550 / 1000000000 ∧ init.f0 = 299792458 / (1550 / 1000000000) ∧ init.N = none := by
  obtain ⟨h1, h2, h3, -⟩ := defaults_documented
  simp only [init, h1, h2, h3, cLight]
  norm_num

theorem inv_init : Inv init := by
  obtain ⟨-, -, hfs, -, hwl, -⟩ := init_values
  refine ⟨⟨rfl, ?_, rfl⟩, ⟨?_, rfl⟩, ⟨rfl, rfl, rfl⟩⟩
  · rw [hfs]; norm_num
  · rw [hwl]; norm_num

/-- no custom attribute survives `clean()`: its keep list is exactly the ten standard attributes -/
theorem survives_false (kv : String × Val) : survives kv = false := by
  unfold survives
  rw [defaults_documented.2.2.2.2.2.2.2]
  exact Bool.and_not_self _

/-- **clean() restores every default**, whatever was stored before (callable values and `__…` names included) -/
theorem clean_restores_defaults (s : State) : clean s = init := by
  have hc : s.custom.filter survives = [] := List.filter_eq_nil_iff.mpr fun kv _ => by simp [survives_false kv]
  -- the literals of `clean` are those of `__init__`
  rw [clean, hc]
  rfl

theorem inv_clean (s : State) : Inv (clean s) := by
  rw [clean_restores_defaults]
  exact inv_init

/-- FULL clause of the statement: `clean()` deletes every non-standard name of `vars(self)`, so nothing a history stored
    survives it -/
theorem C14_full_clean : ∀ s : State, clean s = init := clean_restores_defaults

theorem clean_forgets (s : State) (k : String) : lookup (clean s).custom k = none := by
  rw [clean_restores_defaults]; rfl

/-- `int(np.round(q))`, which the ladder of `gv(...)` applies to `sps`, is a nearest integer -/
theorem round_nearest (q : ℚ) : |q - roundHalfEven q| ≤ 1 / 2 := by
  rw [abs_sub_comm]
  exact pyRound_close q

theorem round_int (k : ℤ) : roundHalfEven (k : ℚ) = k := pyRound_int k

/-- `int(np.round(·))` sends ties to the even neighbour (8.5 → 8, 9.5 → 10, −0.5 → 0) -/
theorem round_ties (k : ℤ) : roundHalfEven ((k : ℚ) + 1 / 2) = if k % 2 = 0 then k else k + 1 :=
  pyRound_tie k

/-- the rates of a call are commensurate: when `sps` has to be derived from `fs` and `R` (because `sps` is not given), `fs`
    is an integer multiple of the slot rate in force.  Nothing is asked when `sps` is passed: then `fs` or `R` is computed from
    the rounded `sps`, so `fs = R·sps` holds even for a non-integer `sps` argument -/
def Commensurate (s : State) (a : Args) : Prop :=
  truthy a.sps = none →
    (∀ r f, truthy a.R = some r → truthy a.fs = some f → ∃ k : ℤ, f = r * k) ∧
    (∀ f, truthy a.R = none → truthy a.fs = some f → ∃ k : ℤ, f = s.R * k)

theorem fs_eq_of_rates {s : State} {a : Args} {k : ℤ} {r f : ℚ} (hc : Commensurate s a) (hs : s.fs = s.R * s.sps)
    (h : rates s a = .ok (k, r, f)) : f = r * k := by
  cases hsp : truthy a.sps <;> cases hR : truthy a.R <;> cases hf : truthy a.fs <;>
    simp only [rates, hsp, hR, hf] at h
  -- the cases are named by which of `sps`, `R`, `fs` were passed (`some`) or not (`none`), in this order
  case none.none.none => cases h; exact hs
  case none.none.some =>
    obtain ⟨hR0, h⟩ := ite_error_eq_ok.mp h
    cases h
    obtain ⟨K, hK⟩ := (hc hsp).2 _ hR hf
    exact roundHalfEven_div hR0 hK
  case none.some.none => cases h; rfl
  case none.some.some =>
    cases h
    obtain ⟨K, hK⟩ := (hc hsp).1 _ _ hR hf
    exact roundHalfEven_div (truthy_some hR).2 hK
  case some.none.none => cases h; rfl
  case some.none.some =>
    obtain ⟨hk, h⟩ := ite_error_eq_ok.mp h
    cases h
    rw [div_mul_cancel₀]
    exact_mod_cast hk
  case some.some.none => cases h; rfl
  case some.some.some => cases h; rfl

/-- a successful `gv(...)` with commensurate rates leaves the grid consistent — including the calls that omit
    `N` while a slot count is in force (`t`, `dw`, `w` then follow the new rates) and the calls that pass only custom keywords -/
theorem inv_call {s s' : State} {a : Args} (hc : Commensurate s a) (hi : Inv s) (h : call s a = .ok s') : Inv s' := by
  obtain ⟨k, r, f, s2, wl, hr, hf, hg, hwl, rfl⟩ := call_ok h
  have hrate : RateInv { s with sps := k, R := r, fs := f, dt := 1 / f } := ⟨fs_eq_of_rates hc hi.1.1 hr, hf, rfl⟩
  cases hN : (a.N <|> s.N) with
  | none =>
    rw [hN] at hg
    cases hg
    have hsN : s.N = none := by
      simp at hN
      exact hN.2
    exact ⟨hrate, ⟨hwl, rfl⟩, by simpa [GridInv, hsN] using hi.2.2⟩
  | some n =>
    rw [hN] at hg
    obtain ⟨hpos, rfl⟩ := withGrid_some_ok hg
    exact ⟨hrate, ⟨hwl, rfl⟩, ⟨hpos, rfl, rfl, rfl⟩⟩

/-- every call of the history is commensurate with the state it meets -/
def CommHist : State → List Op → Prop
  | _, [] => True
  | s, .clean :: ops => CommHist (clean s) ops
  | s, .call a :: ops => Commensurate s a ∧ ∀ s', call s a = .ok s' → CommHist s' ops

/-- after ANY finite sequence of `gv(...)` and `gv.clean()` calls with commensurate rates that ran without
    an exception, the grid is consistent -/
theorem inv_history (ops : List Op) : ∀ s, Inv s → CommHist s ops → ∀ s', run s ops = .ok s' → Inv s' := by
  induction ops with
  | nil => intro s hi _ s' h; cases h; exact hi
  | cons op ops ih =>
    intro s hi hc s' h
    obtain ⟨s1, h1, h2⟩ := run_cons_ok.mp h
    cases op with
    | clean => cases h1; exact ih _ (inv_clean s) hc s' h2
    | call a => exact ih s1 (inv_call hc.1 hi h1) (hc.2 s1 h1) s' h2

theorem inv_history_from_init (ops : List Op) (hc : CommHist init ops) (s' : State) (h : run init ops = .ok s') : Inv s' :=
  inv_history ops init inv_init hc s' h

/-- a history may end with `clean()`: everything is back to the defaults, whatever the history stored -/
theorem history_then_clean (ops : List Op) (s s' : State) (h : run s (ops ++ [.clean]) = .ok s') : s' = init := by
  induction ops generalizing s with
  | nil => cases h; exact clean_restores_defaults s
  | cons op ops ih =>
    obtain ⟨s1, -, h2⟩ := run_cons_ok.mp h
    exact ih s1 h2

/-- a custom attribute not mentioned by a call keeps its value (keywords naming a standard field are outside the model: `reserved`) -/
theorem custom_persist_call {s s' : State} {a : Args} (h : call s a = .ok s') (k : String)
    (hk : ∀ kv ∈ a.kw, kv.1 ≠ k) : lookup s'.custom k = lookup s.custom k := by
  rw [call_custom h, lookup_foldl_setKw_other _ _ _ hk]

/-- a keyword sets the attribute.  The list with repeated keys (the last occurrence wins) is the model's generality: Python's
    `**kargs` is a dict -/
theorem custom_set_call {s s' : State} {a : Args} (h : call s a = .ok s') (k : String) (v : Val)
    (pre post : List (String × Val)) (hkw : a.kw = pre ++ (k, v) :: post) (hpost : ∀ kv ∈ post, kv.1 ≠ k) :
    lookup s'.custom k = some v := by
  rw [call_custom h, hkw, List.foldl_append, List.foldl_cons, lookup_foldl_setKw_other _ _ _ hpost, lookup_setKw_same]

/-- **custom attributes persist until clean()**: over any history of calls that do not mention the name -/
theorem custom_persist_history (k : String) (ops : List Op) :
    ∀ s s', (∀ op ∈ ops, ∃ a, op = .call a ∧ ∀ kv ∈ a.kw, kv.1 ≠ k) → run s ops = .ok s' →
      lookup s'.custom k = lookup s.custom k := by
  induction ops with
  | nil => intro s s' _ h; cases h; rfl
  | cons op ops ih =>
    intro s s' hall h
    obtain ⟨a, rfl, ha⟩ := hall op List.mem_cons_self
    obtain ⟨s1, h1, h2⟩ := run_cons_ok.mp h
    rw [ih s1 s' (fun o ho => hall o (List.mem_cons_of_mem _ ho)) h2, custom_persist_call h1 k ha]

/-- the scan of devices.py, ppm.py, ook.py, utils.py (every function, nested function, method and module-level statement)
    found no assignment / deletion / in-place change of a `gv` attribute, no `gv(...)`, `gv.clean()`, `setattr(gv, …)`,
    `gv.__dict__`, rebinding or escape of the object.  The table is syntactic and per module: a write inside a method of
    `typing.py` that these functions call would not show in it (the run-time monitors cover that) -/
theorem no_writers : Gen.GvWriters.writers = [] := rfl

/-- the scan of `no_writers` did cover the four modules and found public functions and reads of `gv` in them (not vacuous) -/
theorem scan_covers :
    Gen.GvWriters.scanned.map (·.1) = ["devices", "ppm", "ook", "utils"] ∧
    (∀ r ∈ Gen.GvWriters.scanned, 0 < r.2.2.1) ∧
    0 < (Gen.GvWriters.scanned.map (·.2.2.2)).sum := by
  decide

/-- a later call that omits `N` while a slot count is in force: the grid follows the new rates -/
example : (run init [.call { sps := some 8, R := some 1000000000, N := some 10 },
                     .call { sps := some 16, R := some 1000000000 }]).map
    (fun s => (s.sps, s.N, s.t.map List.length, s.wPi.map List.length, s.dwPi)) =
    .ok (16, some 10, some 160, some 160, some 200000000) := by decide +kernel

/-- a callable custom attribute and a `__…` name are stored by a call and removed by `clean()` -/
example : (run init [.call { kw := [("shape", .callable), ("__x", .num 5)] }]).map (fun s => s.custom.length) = .ok 2 := by
  decide +kernel
example : run init [.call { kw := [("shape", .callable), ("__x", .num 5)] }, .clean] = .ok init := by decide +kernel

/-- a non-commensurate call really breaks `fs = R·sps` (so the hypothesis of `inv_call` is needed): fs/R = 8.5 → sps = 8 -/
example : (run init [.call { R := some 1000000000, fs := some 8500000000 }]).map (fun s => (s.sps, decide (s.fs = s.R * (s.sps : ℚ)))) =
    .ok (8, false) := by decide +kernel

example : Commensurate init { fs := some 32000000000 } := by
  intro _
  refine ⟨fun r f h => (by cases h), fun f _ h => ?_⟩
  obtain ⟨h, -⟩ := truthy_some h
  cases h
  exact ⟨32, by rw [init_values.2.1]; norm_num⟩

end OptiVerif.Props.C14
