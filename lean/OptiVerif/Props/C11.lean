/-
C11 — LPF and BPF are linear zero-phase filters with unit DC gain and −6 dB at cut-off.

`Model/Filter.lean` at ℝ.  The second-order sections `secs` (rows of scipy's SOS array with their `sosfilt_zi` rows) and
the pad length `edge` are PARAMETERS: the theorems hold for ANY sections / `zi` / `edge`; the DC-gain ones under
`SteadyChain secs 1 1`, or `SteadyState secs 1 ∧ gainProd secs = 1`, which the harness evaluates on the coefficients scipy
returned; the two on exponentials where no section denominator vanishes at θ.  `retH` (LPF's optional second result) is
modelled as the product of the section responses B_i(z⁻¹)/A_i(z⁻¹) on the N-point FFT grid, fftshift-ed.

NOT theorems (they depend on scipy's Bessel design, which is not modelled): −6.0 dB at cut-off, monotone
attenuation, zero delay / symmetric pulse response, "never increases the power of a tone" — oracle only.
-/
import OptiVerif.Lemmas.FilterResp

namespace OptiVerif.Props.C11
open OptiVerif.Filter OptiVerif.Fourier

/-- a row longer than the padding is accepted and keeps its length -/
theorem filt_len (secs : List (Sec ℝ)) (e : ℕ) (xs : List ℝ) (h : e < xs.length) :
    ∃ ys, filtfilt secs e xs = .ok ys ∧ ys.length = xs.length :=
  ⟨_, filtfilt_ok secs h, length_filtCore secs e xs h⟩

theorem filt_len_cx (secs : List (Sec ℝ)) (e : ℕ) (zs : List (Cx ℝ)) (h : e < zs.length) :
    ∃ ys, filtfiltCx secs e zs = .ok ys ∧ ys.length = zs.length :=
  ⟨_, filtfiltCx_ok secs h, length_filtCoreCx secs e zs h⟩

/-- a row not longer than the padding is rejected (`ValueError`) -/
theorem filt_short (secs : List (Sec ℝ)) (e : ℕ) (xs : List ℝ) (h : xs.length ≤ e) :
    filtfilt secs e xs = .error .ValueError :=
  if_pos h

/-- F(a·x + b·y) = a·F x + b·F y on real rows of equal length -/
theorem filt_linear (secs : List (Sec ℝ)) (e : ℕ) (a b : ℝ) (xs ys : List ℝ)
    (h : xs.length = ys.length) (he : e < xs.length) :
    ∃ fx fy, filtfilt secs e xs = .ok fx ∧ filtfilt secs e ys = .ok fy ∧
      filtfilt secs e (lin a b xs ys) = .ok (lin a b fx fy) :=
  ⟨_, _, filtfilt_ok secs he, filtfilt_ok secs (h ▸ he), by
    rw [filtfilt_ok secs (by simpa [← h] using he), filtCore_lin secs e a b xs ys h]⟩

/-- the same with complex rows and COMPLEX scalars -/
theorem filt_linear_cx (secs : List (Sec ℝ)) (e : ℕ) (a b : Cx ℝ) (zs ws : List (Cx ℝ))
    (h : zs.length = ws.length) (he : e < zs.length) :
    ∃ fz fw, filtfiltCx secs e zs = .ok fz ∧ filtfiltCx secs e ws = .ok fw ∧
      filtfiltCx secs e (linCx a b zs ws) = .ok (linCx a b fz fw) :=
  ⟨_, _, filtfiltCx_ok secs he, filtfiltCx_ok secs (h ▸ he), by
    rw [filtfiltCx_ok secs (by simpa [← h] using he), filtCoreCx_lin secs e a b zs ws h]⟩

/-- linearity of the total version, without the length guard -/
theorem filtCore_linear (secs : List (Sec ℝ)) (e : ℕ) (a b : ℝ) (xs ys : List ℝ) (h : xs.length = ys.length) :
    filtCore secs e (lin a b xs ys) = lin a b (filtCore secs e xs) (filtCore secs e ys) :=
  filtCore_lin secs e a b xs ys h

/-- LPF returns `.real`: the imaginary part of the input has no influence -/
theorem lpf_row_real (secs : List (Sec ℝ)) (e : ℕ) (zs : List (Cx ℝ)) (he : e < zs.length) :
    lpfRow secs e zs = .ok (filtCore secs e (zs.map Cx.re)) :=
  lpfRow_ok secs he

/-- LPF is linear (real scalars) in the real parts of its rows; the combination enters as any row `cs` with real row
    `a·Re zs + b·Re ws` -/
theorem lpf_linear (secs : List (Sec ℝ)) (e : ℕ) (a b : ℝ) (zs ws cs : List (Cx ℝ))
    (h : zs.length = ws.length) (he : e < zs.length) (hc : cs.map Cx.re = lin a b (zs.map Cx.re) (ws.map Cx.re)) :
    ∃ fz fw, lpfRow secs e zs = .ok fz ∧ lpfRow secs e ws = .ok fw ∧ lpfRow secs e cs = .ok (lin a b fz fw) := by
  have hcl : cs.length = zs.length := by
    have := congrArg List.length hc
    simpa [← h] using this
  refine ⟨_, _, lpfRow_ok secs he, lpfRow_ok secs (h ▸ he), ?_⟩
  rw [lpfRow_ok secs (hcl ▸ he), hc, filtCore_lin secs e a b _ _ (by simp [h])]

/-- BPF: every polarisation row of the signal and of the noise goes through the SAME filter, separately -/
theorem filt_rows_bpf (secs : List (Sec ℝ)) (e : ℕ) (s : Sig (Cx ℝ))
    (hs : ∀ r ∈ s.rows, e < r.length) (hn : ∀ nz, s.noise = some nz → ∀ r ∈ nz, e < r.length) :
    bpf secs e s = .ok ⟨s.rows.map (filtCoreCx secs e), s.noise.map (fun nz => nz.map (filtCoreCx secs e))⟩ :=
  bpf_rows secs e s hs hn

/-- LPF: the same for the (real parts of the) signal and noise rows -/
theorem filt_rows_lpf (secs : List (Sec ℝ)) (e : ℕ) (s : Sig (Cx ℝ))
    (hs : ∀ r ∈ s.rows, e < r.length) (hn : ∀ nz, s.noise = some nz → ∀ r ∈ nz, e < r.length) :
    lpf secs e s = .ok ⟨s.rows.map (fun r => filtCore secs e (r.map Cx.re)),
                        s.noise.map (fun nz => nz.map (fun r => filtCore secs e (r.map Cx.re)))⟩ :=
  lpf_rows secs e s hs hn

/-- exchanging the roles of signal and noise exchanges the outputs -/
theorem filt_rows_swap (secs : List (Sec ℝ)) (e : ℕ) (sg nz : List (List (Cx ℝ)))
    (hs : ∀ r ∈ sg, e < r.length) (hn : ∀ r ∈ nz, e < r.length) :
    ∃ fs fn, bpf secs e ⟨sg, some nz⟩ = .ok ⟨fs, some fn⟩ ∧ bpf secs e ⟨nz, some sg⟩ = .ok ⟨fn, some fs⟩ :=
  ⟨_, _, bpf_rows secs e ⟨sg, some nz⟩ hs (fun _ h => Option.some.inj h ▸ hn),
    bpf_rows secs e ⟨nz, some sg⟩ hn (fun _ h => Option.some.inj h ▸ hs)⟩

/-- the filtered signal does not depend on the noise (nor on its presence) -/
theorem filt_rows_signal_indep (secs : List (Sec ℝ)) (e : ℕ) (sg nz : List (List (Cx ℝ)))
    (hs : ∀ r ∈ sg, e < r.length) (hn : ∀ r ∈ nz, e < r.length) :
    ∃ fs fn, bpf secs e ⟨sg, none⟩ = .ok ⟨fs, none⟩ ∧ bpf secs e ⟨sg, some nz⟩ = .ok ⟨fs, some fn⟩ :=
  ⟨_, _, bpf_rows secs e ⟨sg, none⟩ hs (fun _ h => nomatch h),
    bpf_rows secs e ⟨sg, some nz⟩ hs (fun _ h => Option.some.inj h ▸ hn)⟩

/-- exchanging the two polarisations exchanges the outputs -/
theorem filt_rows_swap_pol (secs : List (Sec ℝ)) (e : ℕ) (x y : List (Cx ℝ)) (hx : e < x.length) (hy : e < y.length) :
    ∃ fx fy, bpf secs e ⟨[x, y], none⟩ = .ok ⟨[fx, fy], none⟩ ∧ bpf secs e ⟨[y, x], none⟩ = .ok ⟨[fy, fx], none⟩ :=
  ⟨_, _, bpf_rows secs e ⟨[x, y], none⟩ (by simp [hx, hy]) (fun _ h => nomatch h),
    bpf_rows secs e ⟨[y, x], none⟩ (by simp [hx, hy]) (fun _ h => nomatch h)⟩

/-- division-free form: every section in the steady state of its step input and the cascade taking level 1 to level 1,
    a constant row of ANY length > edge and ANY height comes back unchanged -/
theorem dc_gain_chain (secs : List (Sec ℝ)) (h : SteadyChain secs 1 1) (e n : ℕ) (c : ℝ) (hn : e < n) :
    filtfilt secs e (List.replicate n c) = .ok (List.replicate n c) := by
  rw [filtfilt_ok secs (by simpa using hn), filtCore_const secs 1 h e n c hn, one_mul, one_mul]

/-- the form the harness evaluates on scipy's coefficients: `zi` follows the `sosfilt_zi` recipe, no `Σa` vanishes and
    the product of the section gains `Σb/Σa` is 1  ⇒  F(const c) = const c -/
theorem dc_gain (secs : List (Sec ℝ)) (hz : SteadyState secs 1) (hg : gainProd secs = 1) (e n : ℕ) (c : ℝ) (hn : e < n) :
    filtfilt secs e (List.replicate n c) = .ok (List.replicate n c) := by
  rw [filtfilt_ok secs (by simpa using hn), filtCore_const_of_steadyState secs hz hg e n c hn]

/-- complex constants (BPF passes a CW carrier of any phase unchanged) -/
theorem dc_gain_cx (secs : List (Sec ℝ)) (hz : SteadyState secs 1) (hg : gainProd secs = 1) (e n : ℕ) (c : Cx ℝ) (hn : e < n) :
    filtfiltCx secs e (List.replicate n c) = .ok (List.replicate n c) := by
  rw [filtfiltCx_ok secs (by simpa using hn), filtCoreCx_const_of_steadyState secs hz hg e n c hn]

/-- when the product of the section gains is G, the DC gain is G² (two passes) -/
theorem dc_gain_sq (secs : List (Sec ℝ)) (hz : SteadyState secs 1) (e n : ℕ) (c : ℝ) (hn : e < n) :
    filtfilt secs e (List.replicate n c) = .ok (List.replicate n (gainProd secs * (gainProd secs * c))) := by
  rw [filtfilt_ok secs (by simpa using hn), filtCore_const secs _ (steadyChain_gainProd secs hz) e n c hn]

theorem retH_len (secs : List (Sec ℝ)) (n : ℕ) : (retH secs n).length = n := length_retH secs n

/-- numpy's `ifftshift` recovers grid order k = 0..N-1 from the returned array for EVERY N, odd included -/
theorem retH_shift (secs : List (Sec ℝ)) (n : ℕ) : ifftshift (retH secs n) = respGrid secs n := by
  simp [retH, ifftshift_fftshift]

/-- which frequency sits where: position i holds the response at z⁻¹ = e^{-j2πk/N}, k = (i + N − N/2) mod N -/
theorem retH_grid (secs : List (Sec ℝ)) (n i : ℕ) (h : i < (retH secs n).length) :
    (retH secs n)[i] = sosResp secs (gridW n ((i + (n - n / 2)) % n)) := getElem_retH secs n i h

/-- at DC (centre N/2 of the shifted array) the response is Π Σb/Σa (`hd` is not used: at Σa = 0 `dcGain` and `cdiv`
    both give 0) -/
theorem retH_dc (secs : List (Sec ℝ)) (n : ℕ) (hn : 0 < n) (hd : ∀ c ∈ secs, 1 + c.a1 + c.a2 ≠ 0) :
    (retH secs n)[n / 2]? = some ⟨gainProd secs, 0⟩ :=
  retH_centre secs n hn

/-- under the hypotheses of `dc_gain` the returned response is 1 at DC (only ΠG = 1 is used) -/
theorem retH_dc_one (secs : List (Sec ℝ)) (n : ℕ) (hn : 0 < n) (hz : SteadyState secs 1) (hg : gainProd secs = 1) :
    (retH secs n)[n / 2]? = some ⟨1, 0⟩ := by
  rw [retH_centre secs n hn, hg]

/-- H(−ω) = conj H(ω) on the grid, because the coefficients are real -/
theorem retH_hermitian_grid (secs : List (Sec ℝ)) (n k : ℕ) (hn : 0 < n) (hk : k ≤ n) :
    sosResp secs (gridW n (n - k)) = Cx.conj (sosResp secs (gridW n k)) := by
  rw [gridW_mirror n k hn hk, sosResp_conj]

/-- on the returned (shifted) array: the entries j bins either side of the centre are conjugates -/
theorem retH_hermitian (secs : List (Sec ℝ)) (n j : ℕ) (hj : 0 < j) (h1 : n / 2 + j < n) :
    ∃ a b, (retH secs n)[n / 2 + j]? = some a ∧ (retH secs n)[n / 2 - j]? = some b ∧ b = Cx.conj a :=
  have hjn : j < n := (Nat.le_add_left j _).trans_lt h1
  ⟨_, _, retH_centre_add secs n j h1, retH_centre_sub secs n j hj (by omega),
    retH_hermitian_grid secs n j (Nat.zero_lt_of_lt hjn) hjn.le⟩

/-- hence |H|² takes the same value at grid points k and N − k of the unshifted grid -/
theorem retH_abs_even (secs : List (Sec ℝ)) (n k : ℕ) (hn : 0 < n) (hk : k ≤ n) :
    (sosResp secs (gridW n (n - k))).normSq = (sosResp secs (gridW n k)).normSq := by
  rw [retH_hermitian_grid secs n k hn hk, Cx.normSq_conj]

/-- what H means for the recursion: the cascade of sections, each in its steady state for the complex exponential
    A·e^{jθm}, returns the exponential multiplied by H = Π B_i/A_i at z⁻¹ = e^{-jθ}, for every record length M -/
theorem single_pass_gain (secs : List (Sec ℝ)) (θ : ℝ) (A : Cx ℝ) (M : ℕ)
    (hd : ∀ c ∈ secs, (secDen c (Cx.cis (-θ))).normSq ≠ 0) :
    cascadeCx (Cx.cis θ) (Cx.cis (-θ)) secs A (expSeq (Cx.cis θ) A M)
      = expSeq (Cx.cis θ) (sosResp secs (Cx.cis (-θ)) * A) M :=
  cascadeCx_exp _ _ (cis_mul_cis_neg θ) M secs A hd

/-- forward–backward (cascade, reverse, cascade, reverse) in steady state multiplies the exponential by |H(θ)|²: a real,
    non-negative factor, no phase at any frequency, whatever the sections -/
theorem two_pass_gain (secs : List (Sec ℝ)) (θ : ℝ) (A : Cx ℝ) (M : ℕ)
    (hd : ∀ c ∈ secs, (secDen c (Cx.cis (-θ))).normSq ≠ 0) :
    (cascadeCx (Cx.cis (-θ)) (Cx.cis θ) secs (sosResp secs (Cx.cis (-θ)) * A * cpow (Cx.cis θ) M)
        (cascadeCx (Cx.cis θ) (Cx.cis (-θ)) secs A (expSeq (Cx.cis θ) A (M + 1))).reverse).reverse
      = expSeq (Cx.cis θ) (Cx.smul (sosResp secs (Cx.cis (-θ))).normSq A) (M + 1) := by
  have hu : ∀ c ∈ secs, (secDen c (Cx.cis θ)).normSq ≠ 0 := by
    intro c hc
    have := hd c hc
    rwa [Cx.cis_neg, secDen_conj, Cx.normSq_conj] at this
  rw [two_pass_exp _ _ (cis_mul_cis_neg θ) secs M A hd hu]
  congr 1
  have : sosResp secs (Cx.cis θ) = Cx.conj (sosResp secs (Cx.cis (-θ))) := by
    rw [← sosResp_conj, Cx.cis_neg, Cx.conj_conj]
  rw [this, Cx.conj_mul_self]
  apply Cx.ext <;> simp [Cx.smul]

/-! ### non-vacuity: the concrete section  y[n] = (x[n] + x[n−1])/4 + y[n−1]/2, alone and followed by a second one -/

/-- b = [1/4, 1/4, 0], a = [1, −1/2, 0], zi = [3/4, 0] (what `sosfilt_zi` gives for it) -/
noncomputable def sec0 : Sec ℝ := ⟨1/4, 1/4, 0, -1/2, 0, 3/4, 0⟩
/-- a second section: b = [1/2, 0, 0], a = [1, -1/2, 0], DC gain (1/2)/(1 − 1/2) = 1, zi = [1/2, 0] -/
noncomputable def sec1 : Sec ℝ := ⟨1/2, 0, 0, -1/2, 0, 1/2, 0⟩

theorem sec0_steady : SteadyState [sec0] 1 ∧ gainProd [sec0] = 1 := by
  norm_num [SteadyState, gainProd, dcGain, sec0]

theorem sec01_steady : SteadyState [sec0, sec1] 1 ∧ gainProd [sec0, sec1] = 1 := by
  norm_num [SteadyState, gainProd, dcGain, sec0, sec1]

example : filtfilt [sec0] 3 (List.replicate 7 (5 : ℝ)) = .ok (List.replicate 7 5) :=
  dc_gain _ sec0_steady.1 sec0_steady.2 3 7 5 (by decide)

example : filtfiltCx [sec0, sec1] 6 (List.replicate 40 ⟨2, -3⟩) = .ok (List.replicate 40 ⟨2, -3⟩) :=
  dc_gain_cx _ sec01_steady.1 sec01_steady.2 6 40 _ (by decide)

/-- the filter is not the identity: `scipy.signal.sosfiltfilt([[.25, .25, 0, 1, -.5, 0]], [0, 1], padlen=1)` =
    [0.0234375, 0.484375] = [3/128, 31/64] — evaluation, a test rather than a theorem -/
example : filtfilt [sec0] 1 [0, 1] = .ok [3/128, 31/64] := by
  norm_num [filtfilt, filtCore, fbCore, oddExt, pass, sosfilt, secRun, secStep, trim, last1, sec0]

/-- `filt_linear` on unequal, non-constant rows -/
example : ∃ fx fy, filtfilt [sec0] 1 [0, 1, 4] = .ok fx ∧ filtfilt [sec0] 1 [2, -1, 0] = .ok fy ∧
    filtfilt [sec0] 1 (lin 3 (-2) [0, 1, 4] [2, -1, 0]) = .ok (lin 3 (-2) fx fy) :=
  filt_linear _ 1 3 (-2) _ _ rfl (by decide)

/-- the hypothesis of `single_pass_gain` / `two_pass_gain` holds for `sec0` at Nyquist (θ = π) -/
example : ∀ c ∈ [sec0], (secDen c (Cx.cis (-Real.pi))).normSq ≠ 0 := by
  norm_num [secDen, sec0, cone_eq, Cx.cis, Cx.smul, Cx.normSq]

example : (retH [sec0] 5)[2]? = some ⟨1, 0⟩ := retH_dc_one _ 5 (by decide) sec0_steady.1 sec0_steady.2

end OptiVerif.Props.C11
