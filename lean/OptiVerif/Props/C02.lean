/-
C02 — time/frequency transforms are exact inverses on the sampling-rate FFT grid.
Property theorems about the generic model `Model/Fourier.lean` instantiated at ℝ (the driver runs the same
definitions at Float against numpy).
-/
import OptiVerif.Lemmas.FourierLinear

namespace OptiVerif.Props.C02
open OptiVerif.Fourier

/-- ifft ∘ fft = id on every row of every length -/
theorem idft_dft_row (xs : List (Cx ℝ)) : idft (dft xs) = xs := Fourier.idft_dft xs

theorem dft_idft_row (xs : List (Cx ℝ)) : dft (idft xs) = xs := Fourier.dft_idft xs

theorem callRow_t_w (xs : List (Cx ℝ)) : callRow .t false (callRow .w false xs) = xs := by
  simp [callRow, Fourier.idft_dft]

theorem callRow_w_t (xs : List (Cx ℝ)) : callRow .w false (callRow .t false xs) = xs := by
  simp [callRow, Fourier.dft_idft]

/-- **round trip on the whole container**: x('w')('t') = x — signal rows and noise rows, any number of
    polarisations, any lengths -/
theorem call_roundtrip (p : Payload ℝ) : call .t false (call .w false p) = p :=
  call_leftInverse callRow_t_w p

theorem call_roundtrip' (p : Payload ℝ) : call .w false (call .t false p) = p :=
  call_leftInverse callRow_w_t p

set_option linter.unusedVariables false in
/-- Σ_k |X_k|² = n · Σ_j |x_j|² for every row of length n ≥ 1 -/
theorem parseval (xs : List (Cx ℝ)) (hn : xs.length ≠ 0) :
    sumSq (dft xs) = (xs.length : ℝ) * sumSq xs := Fourier.sumSq_dft xs

set_option linter.unusedVariables false in
theorem parseval_inverse (xs : List (Cx ℝ)) (hn : xs.length ≠ 0) :
    (xs.length : ℝ) * sumSq (idft xs) = sumSq xs := by
  have := Fourier.sumSq_dft (idft xs)
  rw [Fourier.dft_idft, length_idft] at this
  exact this.symm

theorem ifftshift_fftshift {α} (xs : List α) : ifftshift (fftshift xs) = xs := Fourier.ifftshift_fftshift xs
theorem fftshift_ifftshift {α} (xs : List α) : fftshift (ifftshift xs) = xs := Fourier.fftshift_ifftshift xs

/-- x('w', shift=True) followed by numpy's ifftshift is x('w'), for EVERY length (odd included) -/
theorem unshift_w (xs : List (Cx ℝ)) : ifftshift (callRow .w true xs) = callRow .w false xs := by
  simp [callRow, Fourier.ifftshift_fftshift]

/-- x('t', shift=True) followed by numpy's fftshift is x('t') -/
theorem unshift_t (xs : List (Cx ℝ)) : fftshift (callRow .t true xs) = callRow .t false xs := by
  simp [callRow, Fourier.fftshift_ifftshift]

theorem shift_perm (d : Dom) (xs : List (Cx ℝ)) : (callRow d true xs).Perm (callRow d false xs) := by
  cases d <;> exact rot_perm _ _

theorem shift_length (d : Dom) (s : Bool) (xs : List (Cx ℝ)) : (callRow d s xs).length = xs.length :=
  length_callRow d s xs

/-- signal and noise, and each polarisation, are transformed alike and independently -/
theorem call_rows (d : Dom) (s : Bool) (p : Payload ℝ) :
    (call d s p).sig = p.sig.map (callRow d s) ∧
    (call d s p).noise = p.noise.map (List.map (callRow d s)) := ⟨rfl, rfl⟩

theorem call_noise_iff (d : Dom) (s : Bool) (p : Payload ℝ) : (call d s p).noise.isSome = p.noise.isSome := by
  cases h : p.noise <;> simp [call, h]

theorem call_shape (d : Dom) (s : Bool) (p : Payload ℝ) :
    (call d s p).sig.map List.length = p.sig.map List.length := by
  simp [call, length_callRow]

/-- entry i of `w()` is 2π · (signed fftfreq index) / n · fs -/
theorem wAxis_spec (n : ℕ) (fs : ℝ) (i : ℕ) (hi : i < n) :
    (wAxis n fs)[i]'(by simp [wAxis, length_sidxList, hi]) = 2 * Real.pi * ((sidx n i : ℝ) / n) * fs := by
  simp only [wAxis, List.getElem_map, getElem_sidxList, Nat.cast_ofNat, Transc.pi_real]

theorem sidx_spec (n i : ℕ) : sidx n i = if i ≤ (n - 1) / 2 then (i : ℤ) else (i : ℤ) - n := rfl

/-- `w(shift=True)` is the ascending axis 2π·(i - ⌊n/2⌋)·fs/n -/
theorem wAxis_shifted (n : ℕ) (fs : ℝ) :
    fftshift (wAxis n fs) = (List.range n).map (fun i : ℕ => 2 * Real.pi * ((((i : ℤ) - ((n / 2 : ℕ) : ℤ) : ℤ) : ℝ) / n) * fs) := by
  rw [wAxis, fftshift_map, fftshift_sidxList, List.map_map]
  apply List.map_congr_left
  intro i _
  simp only [Function.comp_apply, Nat.cast_ofNat, Transc.pi_real]

theorem power_spec (xs : List (Cx ℝ)) : power xs = sumSq xs / (xs.length : ℝ) := rfl

/-- `x(domain, shift)` is additive on two rows of equal length (as a signal row and its noise row are), shift included -/
theorem callRow_add (d : Dom) (s : Bool) (xs ys : List (Cx ℝ)) (h : xs.length = ys.length) :
    callRow d s (addRows xs ys) = addRows (callRow d s xs) (callRow d s ys) := by
  cases d <;> cases s <;> simp only [callRow, Bool.false_eq_true, if_true]
  · exact dft_add xs ys h
  · rw [dft_add xs ys h, fftshift_addRows _ _ (by rw [length_dft, length_dft, h])]
  · exact idft_add xs ys h
  · rw [idft_add xs ys h, ifftshift_addRows _ _ (by rw [length_idft, length_idft, h])]

/-- homogeneity; stated for `shift = false` only -/
theorem callRow_scale (d : Dom) (c : Cx ℝ) (xs : List (Cx ℝ)) :
    callRow d false (scaleRow c xs) = scaleRow c (callRow d false xs) := by
  cases d
  · exact rowT_scale toC_dftAt c xs
  · exact rowT_scale toC_idftAt c xs

/-- an unlit polarisation stays identically zero under every transform request -/
theorem callRow_zeroRow (d : Dom) (s : Bool) (n : ℕ) : callRow d s (zeroRow n) = zeroRow n := by
  cases d <;> cases s <;>
    simp only [callRow, Bool.false_eq_true, if_false, if_true, dft_zeroRow, idft_zeroRow, fftshift_zeroRow,
      ifftshift_zeroRow]

/-- at ℝ the power of an unlit row is exactly 0 (that the code returns 0.0 and not NaN is the Float run's part); the
    guard is unused: it stands for n = 0, where the real code divides 0 by 0 -/
theorem power_zeroRow (n : ℕ) (_hn : n ≠ 0) : power (zeroRow n) = 0 := by
  rw [power, sumSq_zeroRow, zero_div]

/-! ### the model at the values numpy returns (`fftshift`, `ifftshift`, `fftfreq(n)*n`) -/

example : (fftshift [0, 1, 2, 3, 4] : List ℕ) = [3, 4, 0, 1, 2] := by decide
example : (ifftshift [3, 4, 0, 1, 2] : List ℕ) = [0, 1, 2, 3, 4] := by decide
example : sidxList 5 = [0, 1, 2, -2, -1] := by decide
example : sidxList 4 = [0, 1, -2, -1] := by decide
example : ([⟨1, 0⟩, ⟨0, 2⟩, ⟨-1, 1⟩, ⟨3, 3⟩, ⟨0, 0⟩] : List (Cx ℝ)).length ≠ 0 := by simp

end OptiVerif.Props.C02
