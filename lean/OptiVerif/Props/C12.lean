/-
C12 — PPM encode/decode is a bijection on whole symbols; HDD/SDD emit valid codewords.
SDD is stated for any linearly ordered sample type, e.g. ℝ.
Model: Model/Ppm.lean (+ Model/BinSeqStr.lean for string input); the power-of-two test and the dec2bin loop
expressions are regenerated from the source into Gen/Ppm.lean on every run.
-/
import OptiVerif.Lemmas.PpmCodec
import OptiVerif.Lemmas.PpmDecision
import OptiVerif.Lemmas.BinSeqStrBits

namespace OptiVerif.Props.C12
open OptiVerif.Ppm

/-- the order test found in `ppm.HDD` and in `ppm.SDD` is `M < 1 or not M & (M-1) == 0` -/
theorem pow2_expr_documented (M : Nat) :
    Gen.Ppm.pow2MinHDD = 1 ∧ Gen.Ppm.pow2MinSDD = 1 ∧
    Gen.Ppm.pow2ExprHDD M = M &&& (M - 1) ∧ Gen.Ppm.pow2ExprSDD M = M &&& (M - 1) := ⟨rfl, rfl, rfl, rfl⟩

/-- the loop of `utils.dec2bin` writes `num % 2`, continues with `num // 2`, and refuses `num > 2^digits - 1` -/
theorem dec2bin_loop_documented (num digits : Nat) :
    Gen.Ppm.d2bBit num = num % 2 ∧ Gen.Ppm.d2bNext num = num / 2 ∧ Gen.Ppm.d2bLimit digits = 2 ^ digits - 1 :=
  ⟨rfl, rfl, rfl⟩

/-- `beVal` is the big-endian value: the first bit weighs `2^(len-1)` -/
theorem beVal_bigEndian (b : Bool) (t : List Bool) : beVal (b :: t) = b.toNat * 2 ^ t.length + beVal t ∧ beVal [] = 0 :=
  ⟨beVal_cons b t, rfl⟩

/-- the weighted sum computed by the code (`np.sum(row * 2**np.arange(k)[::-1])`) is that value -/
theorem rowValue_is_bigEndian (k : Nat) (row : List Bool) (h : row.length = k) : rowValue k row = beVal row :=
  rowValue_eq_beVal k row h

/-- a one-hot block has `M` slots, slot `j` is ON iff `j = d`; so exactly one slot is ON -/
theorem oneHot_spec (M d : Nat) (hd : d < M) :
    (oneHot M d).length = M ∧ (∀ j, j < M → (oneHot M d)[j]? = some (decide (d = j))) ∧ ones (oneHot M d) = 1 :=
  ⟨oneHot_length M d, fun j hj => oneHot_getElem? M d j hj, ones_oneHot M d hd⟩

/-- the model's `log2M` is ⌊log₂ M⌋ for every `M ≥ 1`, exact on powers of two; that the library's float
    `int(np.log2(M))` agrees is trusted for `M < 2^31` (MANIFEST) -/
theorem log2M_spec (M : Nat) (hM : 1 ≤ M) :
    log2M (M : Int) = .ok (Nat.log2 M) ∧ 2 ^ Nat.log2 M ≤ M ∧ M < 2 ^ (Nat.log2 M + 1) := by
  refine ⟨?_, Nat.log2_self_le (by omega), Nat.lt_log2_self⟩
  unfold log2M
  rw [if_neg (by omega), if_neg (by omega)]
  simp

theorem log2M_two_pow (k : Nat) : log2M ((2 ^ k : Nat) : Int) = .ok k := by
  have h : 1 ≤ 2 ^ k := Nat.pow_pos (by omega)
  rw [(log2M_spec (2 ^ k) h).1, Nat.log2_two_pow]

theorem encode_seq (M : Nat) (hM : 1 ≤ M) (b : List Bool) :
    encode (.seq b) (M : Int) = some (encodeBits M (Nat.log2 M) b) := by
  simp only [encode, (log2M_spec M hM).1]
  rfl

theorem decode_seq (M : Nat) (hM : 1 ≤ M) (s : List Bool) :
    decode (.seq s) (M : Int) = some (decodeBits M (Nat.log2 M) s) := by
  simp only [decode, (log2M_spec M hM).1]
  rfl

/-- For every order `M ≥ 2` (k = ⌊log₂ M⌋ ≥ 1) and every bit list `b`, the encoder succeeds,
    emits `⌊len b / k⌋` blocks of `M` slots, and block `i` is the one-hot block at the big-endian value of the
    `i`-th row of `k` bits (that value is `< 2^k ≤ M`, so it is a slot of the block). -/
theorem encode_onehot (M : Nat) (hM : 2 ≤ M) (b : List Bool) :
    ∃ out, encode (.seq b) (M : Int) = some (.ok out) ∧
      out.length = b.length / Nat.log2 M * M ∧
      chunks M (b.length / Nat.log2 M) out
        = (chunks (Nat.log2 M) (b.length / Nat.log2 M) b).map (fun row => oneHot M (beVal row)) ∧
      ∀ row ∈ chunks (Nat.log2 M) (b.length / Nat.log2 M) b, row.length = Nat.log2 M ∧ beVal row < M := by
  refine ⟨_, by rw [encode_seq M (by omega), encodeBits_eq M _ (log2_ne_zero hM)], ?_, ?_, fun row hrow => ?_⟩
  · rw [length_oneHots, chunks_length]
  · simpa using chunks_oneHots M beVal (chunks (Nat.log2 M) (b.length / Nat.log2 M) b)
  · obtain ⟨hl, hlt⟩ := beVal_lt_of_mem_chunks b hrow
    exact ⟨hl, Nat.lt_of_lt_of_le hlt (Nat.log2_self_le (by omega))⟩

theorem encode_valid (M : Nat) (hM : 2 ≤ M) (b out : List Bool) (h : encode (.seq b) (M : Int) = some (.ok out)) :
    ValidCW M out := by
  rw [encode_seq M (by omega), encodeBits_eq M _ (log2_ne_zero hM)] at h
  obtain rfl := Except.ok.inj (Option.some.inj h)
  exact validCW_map_oneHot M _ _ fun row hrow =>
    Nat.lt_of_lt_of_le (beVal_lt_of_mem_chunks b hrow).2 (Nat.log2_self_le (by omega))

/-- For every order `M ≥ 2` and every bit list `b`,
    `PPM_DECODER(PPM_ENCODER(b, M), M)` is `b` truncated to a whole number of `k`-bit symbols. -/
theorem decode_encode (M : Nat) (hM : 2 ≤ M) (b out : List Bool) (h : encode (.seq b) (M : Int) = some (.ok out)) :
    decode (.seq out) (M : Int)
      = some (.ok ((b.take (b.length / Nat.log2 M * Nat.log2 M)).map Bool.toNat)) := by
  rw [encode_seq M (by omega)] at h
  rw [decode_seq M (by omega), decodeBits_encodeBits M _ (log2_ne_zero hM) (Nat.log2_self_le (by omega)) b out
    (Option.some.inj h)]

/-- The encoder is a homomorphism at symbol boundaries — if `b₁` is a whole number of `k`-bit symbols,
    `PPM_ENCODER(b₁ ++ b₂, M) = PPM_ENCODER(b₁, M) ++ PPM_ENCODER(b₂, M)` for every order `M ≥ 2`. -/
theorem encode_append (M : Nat) (hM : 2 ≤ M) (b₁ b₂ : List Bool) (w₁ : b₁.length % Nat.log2 M = 0) :
    ∃ o₁ o₂, encode (.seq b₁) (M : Int) = some (.ok o₁) ∧ encode (.seq b₂) (M : Int) = some (.ok o₂) ∧
      encode (.seq (b₁ ++ b₂)) (M : Int) = some (.ok (o₁ ++ o₂)) := by
  have hk := log2_ne_zero hM
  have hd := Nat.dvd_of_mod_eq_zero w₁
  have hdiv : (b₁.length + b₂.length) / Nat.log2 M = b₁.length / Nat.log2 M + b₂.length / Nat.log2 M := by
    conv_lhs => rw [← Nat.mul_div_cancel' hd]
    exact Nat.mul_add_div (Nat.pos_of_ne_zero hk) _ _
  refine ⟨_, _, by rw [encode_seq M (by omega), encodeBits_eq M _ hk], by rw [encode_seq M (by omega), encodeBits_eq M _ hk], ?_⟩
  rw [encode_seq M (by omega), encodeBits_eq M _ hk, List.length_append, hdiv,
    chunks_append _ _ _ b₁ b₂ (Nat.div_mul_cancel hd).symm, List.map_append, List.flatten_append]

/-- non-vacuity: 4-PPM, `b₁ = 10 11` (two symbols), `b₂ = 01` -/
example : encode (.seq [true, false, true, true]) 4 = some (.ok [false, false, true, false, false, false, false, true]) ∧
    encode (.seq [false, true]) 4 = some (.ok [false, true, false, false]) ∧
    encode (.seq [true, false, true, true, false, true]) 4
      = some (.ok [false, false, true, false, false, false, false, true, false, true, false, false]) := by decide

/-- The decoder is a homomorphism at symbol boundaries — if `s₁` is a whole number of `M`-slot symbols,
    decoding `s₁ ++ s₂` gives the bits of `s₁` followed by the bits of `s₂` (or fails exactly when one of the parts does),
    for every order `M ≥ 1` and ANY slot contents (valid codewords or not). -/
theorem decode_append (M : Nat) (hM : 1 ≤ M) (s₁ s₂ : List Bool) (w₁ : s₁.length % M = 0) :
    ∃ r₁ r₂, decode (.seq s₁) (M : Int) = some r₁ ∧ decode (.seq s₂) (M : Int) = some r₂ ∧
      decode (.seq (s₁ ++ s₂)) (M : Int) = some (do let a ← r₁; let b ← r₂; pure (a ++ b)) := by
  refine ⟨_, _, decode_seq M hM s₁, decode_seq M hM s₂, ?_⟩
  rw [decode_seq M hM, decodeBits_append M _ s₁ s₂ w₁]

/-- the encoder is injective on whole symbols (with `decode_encode`/`encode_decode`: a bijection between
    bit lists of whole symbols and valid codewords) -/
theorem encode_injective (M : Nat) (hM : 2 ≤ M) (b₁ b₂ out : List Bool)
    (w₁ : b₁.length % Nat.log2 M = 0) (w₂ : b₂.length % Nat.log2 M = 0)
    (h₁ : encode (.seq b₁) (M : Int) = some (.ok out)) (h₂ : encode (.seq b₂) (M : Int) = some (.ok out)) : b₁ = b₂ := by
  have d₁ := decode_encode M hM b₁ out h₁
  have d₂ := decode_encode M hM b₂ out h₂
  rw [d₁] at d₂
  injection d₂ with d₂; injection d₂ with d₂
  rw [Nat.div_mul_cancel (Nat.dvd_of_mod_eq_zero w₁), Nat.div_mul_cancel (Nat.dvd_of_mod_eq_zero w₂),
    List.take_length, List.take_length] at d₂
  exact (List.map_inj_right (fun a b => by cases a <;> cases b <;> simp)).mp d₂

/-- For `M = 2^k`, `k ≥ 1`, every valid codeword decodes to `k` bits per symbol and the
    encoder maps those bits back to the codeword. -/
theorem encode_decode (k : Nat) (hk : 1 ≤ k) (slots : List Bool) (hv : ValidCW (2 ^ k) slots) :
    ∃ w, decode (.seq slots) ((2 ^ k : Nat) : Int) = some (.ok w) ∧ w.length = slots.length / 2 ^ k * k ∧
      (∀ x ∈ w, x = 0 ∨ x = 1) ∧
      encode (.seq (w.map (· != 0))) ((2 ^ k : Nat) : Int) = some (.ok slots) := by
  have h2 : 2 ≤ 2 ^ k := Nat.le_self_pow (by omega) 2
  obtain ⟨ds, hds, hdl, rfl⟩ := hv.eq_oneHots
  refine ⟨(ds.map (Dec2bin.bitsBE k)).flatten, ?_, ?_, fun x hx => ?_, ?_⟩
  · rw [decode_seq _ (Nat.pow_pos (by omega)), Nat.log2_two_pow, decodeBits_rows (2 ^ k) k ds hds hds]
  · rw [length_flatten_of_rows k _ (List.forall_mem_map.mpr fun _ _ => Dec2bin.bitsBE_length _ _), List.length_map, hdl]
  · obtain ⟨l, hl, hxl⟩ := List.mem_flatten.mp hx
    obtain ⟨d, _, rfl⟩ := List.mem_map.mp hl
    exact Dec2bin.bitsBE_mem k d x hxl
  · rw [encode_seq _ (by omega), Nat.log2_two_pow, encodeBits_decodeBits_rows (2 ^ k) k (by omega) ds hds]

/-- `dec2bin(num, digits)`: the big-endian `digits`-bit representation when `num < 2^digits`, ValueError otherwise -/
theorem dec2bin_spec (num digits : Nat) :
    (num < 2 ^ digits → ∃ w, dec2bin num digits = .ok w ∧ w.length = digits ∧ (∀ x ∈ w, x = 0 ∨ x = 1) ∧
        beVal (w.map (· != 0)) = num) ∧
    (2 ^ digits ≤ num → dec2bin num digits = .error .ValueError) :=
  ⟨fun h => ⟨_, dec2bin_ok num digits h, Dec2bin.bitsBE_length _ _, fun x hx => Dec2bin.bitsBE_mem _ _ x hx,
      (beVal_bitsBE _ _).trans (Nat.mod_eq_of_lt h)⟩,
   dec2bin_err num digits⟩

/-- the order test of HDD/SDD accepts exactly the powers of two: 0, negative orders and every other integer are refused -/
theorem pow2Test_spec (M : Int) : (pow2Test M = true ↔ ∃ k : Nat, M = 2 ^ k) ∧ pow2TestS M = pow2Test M :=
  ⟨pow2Test_iff M, pow2TestS_eq M⟩

theorem hdd_seq (M : Int) (ri : Nat → Nat → Nat) (ch : Nat → List Nat → Nat) (slots : List Bool) :
    hdd (.seq slots) M ri ch = some (hddBits M ri ch slots) := rfl

/-- HDD symbol by symbol, for every oracle obeying numpy's contract
    (`randint(M) < M`, `choice(j) ∈ j`): same length; symbol `i` of the result has exactly one ON slot; it is the
    received symbol when that had exactly one ON slot; its ON slot was ON in the received symbol when that had any. -/
theorem hdd_spec (M : Nat) (ri : Nat → Nat → Nat) (ch : Nat → List Nat → Nat) (hr : RandintOK ri) (hc : ChoiceOK ch)
    (slots out : List Bool) (h : hdd (.seq slots) (M : Int) ri ch = some (.ok out)) :
    out.length = slots.length ∧ slots.length % M = 0 ∧
    ∀ (i : Nat) (s s' : List Bool), (chunks M (slots.length / M) slots)[i]? = some s →
      (chunks M (slots.length / M) out)[i]? = some s' →
        s'.length = M ∧ ones s' = 1 ∧ (ones s = 1 → s' = s) ∧
        (1 ≤ ones s → ∀ j : Nat, s'[j]? = some true → s[j]? = some true) := by
  obtain ⟨hp, hmod, rfl⟩ := hddBits_ok_iff.mp (Option.some.inj h)
  obtain ⟨hl, hrows, hsym⟩ := hddSyms_spec M (pow2Test_pos M hp) ri ch hr hc _
    (chunks_row_length M _ slots (Nat.div_mul_le_self _ _)) 0 0
  have hc := chunks_flatten M _ hrows
  rw [hl, chunks_length] at hc
  refine ⟨?_, hmod, by rwa [hc]⟩
  rw [length_flatten_of_rows M _ hrows, hl, chunks_length,
    Nat.div_mul_cancel (Nat.dvd_of_mod_eq_zero hmod)]

theorem hdd_valid (M : Nat) (ri : Nat → Nat → Nat) (ch : Nat → List Nat → Nat) (hr : RandintOK ri) (hc : ChoiceOK ch)
    (slots out : List Bool) (h : hdd (.seq slots) (M : Int) ri ch = some (.ok out)) : ValidCW M out := by
  obtain ⟨hl, hmod, hsym⟩ := hdd_spec M ri ch hr hc slots out h
  refine ⟨hl ▸ hmod, fun r hr => ?_⟩
  rw [hl] at hr
  obtain ⟨i, hi, rfl⟩ := List.getElem_of_mem hr
  have hi' : i < (chunks M (slots.length / M) slots).length := by simpa using hi
  exact (hsym i _ _ (List.getElem?_eq_getElem hi') (List.getElem?_eq_getElem hi)).2.1

/-- HDD is the identity on valid codewords — whatever the random draws are -/
theorem hdd_id_on_valid (M : Nat) (hp : pow2Test (M : Int) = true) (ri : Nat → Nat → Nat)
    (ch : Nat → List Nat → Nat) (slots : List Bool) (hv : ValidCW M slots) :
    hdd (.seq slots) (M : Int) ri ch = some (.ok slots) := by
  refine congrArg some (hddBits_ok_iff.mpr ⟨hp, hv.1, ?_⟩)
  rw [hddSyms_id M ri ch _ hv.2, flatten_chunks, Nat.div_mul_cancel (Nat.dvd_of_mod_eq_zero hv.1), List.take_length]

/-- Rejection by HDD: ValueError exactly for orders that are not powers of two (0 and negatives included) and, for a
    power of two, for lengths that are not whole symbols; HDD raises nothing else on a slot list -/
theorem hdd_reject (M : Int) (ri : Nat → Nat → Nat) (ch : Nat → List Nat → Nat) (slots : List Bool) :
    (hdd (.seq slots) M ri ch = some (.error .ValueError) ↔
      ((¬ ∃ k : Nat, M = 2 ^ k) ∨ slots.length % M.toNat ≠ 0)) ∧
    (∀ e, hdd (.seq slots) M ri ch = some (.error e) → e = .ValueError) := by
  rw [hdd_seq]
  unfold hddBits
  rw [← pow2Test_iff]
  cases hp : pow2Test M
  · simp
  · by_cases hl : slots.length % M.toNat = 0 <;> simp [hl]

theorem hdd_order_below_one (M : Int) (hM : M < 1) (ri : Nat → Nat → Nat) (ch : Nat → List Nat → Nat) (slots : List Bool) :
    hdd (.seq slots) M ri ch = some (.error .ValueError) :=
  ((hdd_reject M ri ch slots).1).mpr (Or.inl (not_two_pow_of_lt_one M hM))

/-- Deciding twice changes nothing — the output of an accepted `HDD` call is returned unchanged by any
    further `HDD` call, whatever the random draws of either call are -/
theorem hdd_idempotent (M : Nat) (ri ri' : Nat → Nat → Nat) (ch ch' : Nat → List Nat → Nat) (hr : RandintOK ri) (hc : ChoiceOK ch)
    (slots out : List Bool) (h : hdd (.seq slots) (M : Int) ri ch = some (.ok out)) :
    hdd (.seq out) (M : Int) ri' ch' = some (.ok out) :=
  hdd_id_on_valid M (hddBits_ok_iff.mp (Option.some.inj h)).1 ri' ch' out
    (hdd_valid M ri ch hr hc slots out h)

section
variable {R : Type} [LinearOrder R] [Add R] [Zero R]

omit [Add R] [Zero R] in
/-- `np.argmax`: in range, maximal, and the first maximal position -/
theorem argmax_first_max (l : List R) (hl : l ≠ []) :
    argmax l < l.length ∧ ∃ v, l[argmax l]? = some v ∧ (∀ (j : Nat) x, l[j]? = some x → x ≤ v) ∧
      (∀ (j : Nat) x, j < argmax l → l[j]? = some x → x < v) :=
  ⟨argmax_lt_length l (List.length_pos_iff.mpr hl), argmax_spec l hl⟩

omit [LinearOrder R] in
theorem slotSums_spec (sps : Nat) (x : List R) (i : Nat) (h : i < x.length / sps) :
    (slotSums sps x)[i]? = some (sumL ((x.drop (i * sps)).take sps)) := by
  simp only [slotSums, List.getElem?_map, chunks_getElem? sps _ i x h, Option.map_some]

/-- An accepted SDD call turns ON, in every symbol, exactly the slot that `argmax` selects among the `M`
    slot energies of that symbol (the first slot of largest energy); the result is a valid codeword with one slot
    per `sps` samples. -/
theorem sdd_argmax (M sps : Nat) (x : List R) (out : List Bool) (h : sdd (M : Int) sps x = .ok out) :
    out.length = x.length / sps ∧ ValidCW M out ∧
    ∀ (i : Nat) (e : List R), (chunks M (x.length / sps / M) (slotSums sps x))[i]? = some e →
      e.length = M ∧ argmax e < M ∧ (chunks M (x.length / sps / M) out)[i]? = some (oneHot M (argmax e)) := by
  obtain ⟨hp, hs, hmod, rfl⟩ := sdd_ok_iff.mp h
  have hM := pow2Test_pos M hp
  have hdiv : x.length / sps / M * M = x.length / sps :=
    Nat.div_mul_cancel (Nat.dvd_of_mod_eq_zero (by
      rw [← Nat.mod_mul_left_div_self, hmod, Nat.zero_div]))
  have hne : ∀ e ∈ chunks M (x.length / sps / M) (slotSums sps x), e.length = M ∧ argmax e < M := by
    intro e he
    have hl := chunks_row_length M _ (slotSums sps x) (by rw [slotSums_length, hdiv]) e he
    exact ⟨hl, hl ▸ argmax_lt_length e (hl.symm ▸ hM)⟩
  have hc := chunks_oneHots M argmax (chunks M (x.length / sps / M) (slotSums sps x))
  rw [chunks_length] at hc
  refine ⟨by rw [length_oneHots, chunks_length, hdiv], validCW_map_oneHot M _ _ fun e he => (hne e he).2,
    fun i e he => ?_⟩
  have := hne e (List.mem_of_getElem? he)
  exact ⟨this.1, this.2, by rw [hc, List.getElem?_map, he]; rfl⟩

/-- Let `c` be a valid codeword and let every slot be rendered by `sps ≥ 1` samples, `p1` for
    an ON slot and `p0` for an OFF slot, with larger total for ON (`Σp0 < Σp1`; covers any pulse shape, any bias, any
    positive amplitude).  Then SDD returns `c`. -/
theorem sdd_id_on_waveforms (M sps : Nat) (hM : 0 < M) (hp : pow2Test (M : Int) = true) (hs : 0 < sps)
    (c : List Bool) (hv : ValidCW M c) (p0 p1 : List R) (h0 : p0.length = sps) (h1 : p1.length = sps)
    (hlt : sumL p0 < sumL p1) :
    sdd (M : Int) sps (c.map (fun b => if b then p1 else p0)).flatten = .ok c := by
  have hrl : ∀ r ∈ c.map (fun b => if b then p1 else p0), r.length = sps :=
    List.forall_mem_map.mpr fun b _ => by cases b <;> assumption
  have hss : slotSums sps (c.map (fun b => if b then p1 else p0)).flatten
      = c.map (fun b => if b then sumL p1 else sumL p0) := by
    rw [slotSums_flatten sps hs _ hrl, List.map_map]
    exact List.map_congr_left fun b _ => by cases b <;> rfl
  have hxl := length_flatten_of_rows sps _ hrl
  rw [List.length_map] at hxl
  obtain ⟨ds, hds, _, rfl⟩ := hv.eq_oneHots
  have hcl : (ds.map (oneHot M)).flatten.length = ds.length * M := length_oneHots M id ds
  have hc : chunks M ds.length (ds.map (oneHot M)).flatten = ds.map (oneHot M) := chunks_oneHots M id ds
  refine sdd_ok_iff.mpr ⟨hp, hs, by rw [hxl, hcl, Nat.mul_assoc, Nat.mul_mod_left], ?_⟩
  rw [hxl, Nat.mul_div_cancel _ hs, hss, chunks_map, hcl, Nat.mul_div_cancel _ hM, hc, List.map_map, List.map_map]
  congr 1
  exact List.map_congr_left fun d hd =>
    by rw [Function.comp, Function.comp, argmax_oneHot M d (hds d hd) _ _ hlt]

/-- Rejection by SDD: ValueError exactly for orders that are not powers of two (0 and negatives included) and, for
    `M·sps ≠ 0`, for lengths that are not a multiple of `M·sps` -/
theorem sdd_reject (M : Int) (sps : Nat) (x : List R) :
    sdd M sps x = .error .ValueError ↔
      ((¬ ∃ k : Nat, M = 2 ^ k) ∨ (M.toNat * sps ≠ 0 ∧ x.length % (M.toNat * sps) ≠ 0)) := by
  unfold sdd
  rw [pow2TestS_eq, ← pow2Test_iff]
  cases hp : pow2Test M
  · simp
  · by_cases h0 : M.toNat * sps = 0
    · simp [h0]
    · simp [h0]

theorem sdd_order_below_one (M : Int) (hM : M < 1) (sps : Nat) (x : List R) : sdd M sps x = .error .ValueError :=
  (sdd_reject M sps x).mpr (Or.inl (not_two_pow_of_lt_one M hM))
end

/-- list, tuple, ndarray and `binary_sequence` inputs are one model input (`Input.seq`, the elements' truth values), so
    they agree by construction.  **The string form agrees too**: a plain bit string (characters `0 1 space comma`, not
    empty) is normalised to the list of its digits, hence every function gives the same result on it. -/
theorem forms_agree (s : List Nat) (h : BinSeqStr.Plain s) :
    (Input.str s).toBits = (Input.seq ((s.filter BinSeqStr.keep).map (· == 49))).toBits ∧
    (∀ M, encode (.str s) M = encode (.seq ((s.filter BinSeqStr.keep).map (· == 49))) M) ∧
    (∀ M, decode (.str s) M = decode (.seq ((s.filter BinSeqStr.keep).map (· == 49))) M) ∧
    (∀ M ri ch, hdd (.str s) M ri ch = hdd (.seq ((s.filter BinSeqStr.keep).map (· == 49))) M ri ch) := by
  have key : (Input.str s).toBits = (Input.seq ((s.filter BinSeqStr.keep).map (· == 49))).toBits := by
    simp only [Input.toBits, BinSeqStr.str2array_plain s h, List.map_map]
    congr 1
    apply List.map_congr_left
    intro c hc
    rcases h.digit hc with rfl | rfl <;> rfl
  refine ⟨key, ?_, ?_, ?_⟩
  · intro M; simp only [encode, key]
  · intro M; simp only [decode, key]
  · intro M ri ch; simp only [hdd, key]

example : encode (.seq [false, true, true, true, true, false, false, false]) 4
    = some (.ok [false,true,false,false, false,false,false,true, false,false,true,false, true,false,false,false]) := by decide
example : decode (.seq [false,true,false,false, false,false,false,true]) 4 = some (.ok [0,1,1,1]) := by decide
example : ValidCW 4 [false,true,false,false, false,false,false,true] := ⟨by decide, by decide⟩
/-- an oracle obeying the contract exists (so `hdd_spec`/`hdd_valid` are not vacuous) … -/
example : RandintOK (fun c M => c % M) ∧ ChoiceOK (fun c j => j.getD (c % j.length) 0) := by
  refine ⟨fun c M h => Nat.mod_lt _ h, fun c j hj => ?_⟩
  have hl : 0 < j.length := List.length_pos_iff.mpr hj
  show j.getD (c % j.length) 0 ∈ j
  rw [List.getD_eq_getElem?_getD, List.getElem?_eq_getElem (Nat.mod_lt _ hl)]
  exact List.getElem_mem _
/-- … and an accepted call that needs both kinds of repair -/
example : hdd (.seq [false,false,false,false, false,true,true,true, false,false,true,false]) 4
    (fun c M => c % M) (fun c j => j.getD (c % j.length) 0)
    = some (.ok [true,false,false,false, false,true,false,false, false,false,true,false]) := by decide
-- order 3 is not a power of two; order 2 with three slots is not whole symbols
example : hdd (.seq [false,true,false]) 3 (fun _ _ => 0) (fun _ _ => 0) = some (.error .ValueError) := by decide
example : hdd (.seq [false,true,false]) 2 (fun _ _ => 0) (fun _ _ => 0) = some (.error .ValueError) := by decide
example : sdd (2 : Int) 2 ([1,1,2,0, 5,-1,0,5] : List Int) = .ok [true,false, false,true] := by decide
example : BinSeqStr.Plain [48, 32, 49, 44, 49] := ⟨by decide, by decide⟩
example : encode (.str [48, 32, 49, 44, 49, 49]) 4 = encode (.seq [false, true, true, true]) 4 := by decide
example : pow2Test 4 = true ∧ pow2Test 6 = false ∧ pow2Test (-4) = false ∧ pow2Test 1 = true ∧ pow2Test 0 = false := by decide
-- order 0 is refused by `M < 1`
example : hdd (.seq [false,true,false,false]) 0 (fun _ _ => 0) (fun _ _ => 0) = some (.error .ValueError) := by decide

end OptiVerif.Props.C12
