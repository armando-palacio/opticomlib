/-
C15 — binary_sequence is a closed, immutable-by-operation algebra over {0,1}; electrical_signal >, < comparisons.
Model: Model/BinSeq.lean (+ Model/BinSeqStr.lean).

A sequence is the list of its stored uint8 values; `Valid l` = every element is 0 or 1.
The model is functional, so "operands are left unchanged" has no content here: it is a runtime monitor of the harness.
-/
import OptiVerif.Lemmas.BinSeqCmp

namespace OptiVerif.Props.C15
open OptiVerif.BinSeq OptiVerif.BinSeqStr

/-- `binary_sequence(data)` (data not a string) is accepted iff `np.array(data)` is 0-D or 1-D and
    every element equals 0 or 1; the stored data are then exactly the elements' bits (a 0-D value becomes length 1). -/
theorem mk_valid_iff (a : Arr) (bits : List Nat) :
    mk (.arr a) = some (.ok bits) ↔
      (∃ c, a = .scalar c ∧ c.bit.isSome ∧ bits = [bitNat c]) ∨
      (∃ cs, a = .vec cs ∧ (∀ c ∈ cs, c.bit.isSome) ∧ bits = cs.map bitNat) :=
  Option.some_inj.trans (mkArr_ok_iff a bits)

/-- whatever is accepted (strings included) is stored as a valid sequence: 1-D, every element 0 or 1 -/
theorem mk_closed (d : Data) (bits : List Nat) (h : mk d = some (.ok bits)) : Valid bits := by
  obtain ⟨a, -, h⟩ := map_bind_ok.mp h
  rcases (mkArr_ok_iff a bits).mp h with ⟨c, -, -, rfl⟩ | ⟨cs, -, -, rfl⟩
  · exact valid_map_bitNat [c]
  · exact valid_map_bitNat cs

/-- conversion errors of a data operand (string or array) are ValueError only -/
theorem toArr_error_kind (d : Data) (e : Wire.Err) (h : toArr d = some (.error e)) : e = .ValueError :=
  toArr_error h

/-- every refusal of the constructor is a ValueError — strings included: the OverflowError that `str2array` raises
    for an integer literal outside the C long range is converted by the constructor -/
theorem mk_error_kind (d : Data) (e : Wire.Err) (h : mk d = some (.error e)) : e = .ValueError := by
  rcases map_bind_error.mp h with h | ⟨a, -, h⟩
  · exact toArr_error h
  · exact (mkArr_raises a).elim h

/-- the same literal as an operand of `+` / reflected `+` is a ValueError too (the operators wrap `str2array` the same
    way): `'99999999999999999999'` and `'-9223372036854775809'` (−2⁶³ − 1) as code points -/
theorem add_overflow_is_ValueError :
    add [0, 1] (.data (.str [57,57,57,57,57,57,57,57,57,57,57,57,57,57,57,57,57,57,57,57])) = some (.error .ValueError) ∧
    radd [0, 1] (.data (.str [45,57,50,50,51,51,55,50,48,51,54,56,53,52,55,55,53,56,48,57])) = some (.error .ValueError) ∧
    mk (.str [57,57,57,57,57,57,57,57,57,57,57,57,57,57,57,57,57,57,57,57]) = some (.error .ValueError) := by
  decide

/-- a plain bit string (characters `0 1 space comma`, not empty) builds the sequence of its digits -/
theorem mk_str_bits (s : List Nat) (h : Plain s) :
    mk (.str s) = some (.ok ((s.filter keep).map (fun c => c - 48))) ∧
    ∀ c ∈ s.filter keep, c = 48 ∨ c = 49 := by
  refine ⟨?_, fun c => h.digit⟩
  have hm : mkArr (.vec ((s.filter keep).map cellOf)) = .ok ((s.filter keep).map (fun c => c - 48)) := by
    rw [mkArr_vec, if_pos, List.map_map]
    · exact congrArg _ (List.map_congr_left fun c hc => by rcases h.digit hc with rfl | rfl <;> rfl)
    · intro c hc
      obtain ⟨d, hd, rfl⟩ := List.mem_map.mp hc
      rcases h.digit hd with rfl | rfl <;> rfl
  rw [mk, toArr_plain h]
  exact congrArg some hm

/-! ### closure: every accepted operator result is a valid sequence -/

theorem add_closed (a : List Nat) (o : Operand) (r : List Nat) (h : add a o = some (.ok r)) : Valid r := by
  obtain ⟨b, -, rfl, hv⟩ := add_ok_iff.mp h
  exact hv

theorem radd_closed (a : List Nat) (o : Operand) (r : List Nat) (h : radd a o = some (.ok r)) : Valid r := by
  obtain ⟨b, -, rfl, hv⟩ := radd_ok_iff.mp h
  exact hv

theorem invert_closed (a r : List Nat) (h : invert a = .ok r) : Valid r :=
  valid_of_revalidate h

theorem getitem_closed (a : List Nat) (i : Index) (r : List Nat) (h : getitem a i = .ok r) : Valid r := by
  cases i with
  | int j =>
    obtain ⟨-, h⟩ := ite_error_eq_ok.mp (show getInt a j = .ok r from h)
    split at h
    · exact valid_of_revalidate h
    · cases h
  | slice st sp step =>
    obtain ⟨s, -, h⟩ := Except.bind_eq_ok.mp (show span a.length st sp step >>= _ = .ok r from h)
    exact valid_of_revalidate h
  | newaxis => cases h
  | ellipsis => exact valid_of_revalidate h

/-- `a + b` for a sequence operand: the concatenation, always accepted -/
theorem add_bs (a b : List Nat) (ha : Valid a) (hb : Valid b) : add a (.bs b) = some (.ok (a ++ b)) :=
  add_ok_iff.mpr ⟨b, rfl, rfl, valid_append ha hb⟩

/-- `a + b` for a list / tuple / ndarray operand that is 1-D with all elements 0/1: the concatenation -/
theorem add_vec (a : List Nat) (ha : Valid a) (cs : List Cell) (hc : ∀ c ∈ cs, c.bit.isSome) :
    add a (.data (.arr (.vec cs))) = some (.ok (a ++ cs.map bitNat)) :=
  add_ok_iff.mpr ⟨_, (operandBits_vec cs).trans (if_pos hc), rfl, valid_append ha (valid_map_bitNat cs)⟩

/-- whatever the operand, an accepted `a + o` is `a ++ b` for the bits `b` of the operand -/
theorem add_spec (a : List Nat) (o : Operand) (r : List Nat) (h : add a o = some (.ok r)) :
    ∃ b, operandBits o = some (.ok b) ∧ r = a ++ b := by
  obtain ⟨b, hb, hr, -⟩ := add_ok_iff.mp h
  exact ⟨b, hb, hr⟩

/-- reflected `o + a` is `b ++ a` -/
theorem radd_spec (a : List Nat) (o : Operand) (r : List Nat) (h : radd a o = some (.ok r)) :
    ∃ b, operandBits o = some (.ok b) ∧ r = b ++ a := by
  obtain ⟨b, hb, hr, -⟩ := radd_ok_iff.mp h
  exact ⟨b, hb, hr⟩

/-- `len(a+b) = len(a) + len(b)` -/
theorem len_add (a : List Nat) (o : Operand) (r : List Nat) (h : add a o = some (.ok r)) :
    ∃ b, operandBits o = some (.ok b) ∧ len r = len a + len b := by
  obtain ⟨b, hb, rfl⟩ := add_spec a o r h
  exact ⟨b, hb, List.length_append⟩

theorem len_radd (a : List Nat) (o : Operand) (r : List Nat) (h : radd a o = some (.ok r)) :
    ∃ b, operandBits o = some (.ok b) ∧ len r = len b + len a := by
  obtain ⟨b, hb, rfl⟩ := radd_spec a o r h
  exact ⟨b, hb, List.length_append⟩

/-- `(a+b)[:len(a)] == a`, through the model's own slicing -/
theorem take_add (a : List Nat) (o : Operand) (r : List Nat) (h : add a o = some (.ok r)) :
    getitem r (.slice none (some (len a : Nat)) none) = .ok a := by
  obtain ⟨b, -, rfl, hv⟩ := add_ok_iff.mp h
  have hstop : stopOf (a ++ b).length 1 (some (len a : Nat)) = a.length := by
    simp only [stopOf, adjust, len, List.length_append]
    omega
  rw [getitem_upto hv, hstop]
  exact congrArg _ (List.take_left' rfl)

/-- refused operands: a non-container, non-string operand is a TypeError; every other refusal of `+` / reflected `+`
    (strings included, out-of-range integer literals included) is a ValueError -/
theorem add_error_kinds (a : List Nat) :
    add a .other = some (.error .TypeError) ∧ radd a .other = some (.error .TypeError) ∧
    ∀ (o : Operand) (e : Wire.Err), o ≠ .other → (add a o = some (.error e) ∨ radd a o = some (.error e)) →
      e = .ValueError := by
  refine ⟨rfl, rfl, fun o e ho h => ?_⟩
  rcases h with h | h <;> rcases map_bind_error.mp h with h | ⟨b, -, h⟩
  exacts [operandBits_error ho h, (revalidate_raises _).elim h, operandBits_error ho h, (revalidate_raises _).elim h]

/-- `~a` flips every element -/
theorem invert_spec (a : List Nat) : invert a = .ok (a.map flip) :=
  revalidate_of_valid (valid_map_flip a)

/-- `~~a == a` -/
theorem invert_invert (a : List Nat) (ha : Valid a) : (invert a).bind invert = .ok a := by
  rw [invert_spec]
  refine (invert_spec _).trans (congrArg _ ?_)
  rw [List.map_map]
  exact (List.map_congr_left fun x hx => flip_flip (ha x hx)).trans (List.map_id a)

/-- `ones() + zeros() == len()` -/
theorem ones_add_zeros (a : List Nat) (ha : Valid a) : ones a + zeros a = len a := by
  rw [zeros_eq_ones_flip ha, Nat.add_comm, ones_map_flip ha]

/-- `ones(~a) == zeros(a)` -/
theorem ones_invert (a r : List Nat) (ha : Valid a) (h : invert a = .ok r) : ones r = zeros a := by
  rw [invert_spec] at h
  cases h
  exact (zeros_eq_ones_flip ha).symm

/-- `ones` counts the 1s -/
theorem ones_count (a : List Nat) (ha : Valid a) : ones a = a.count 1 := by
  induction a with
  | nil => rfl
  | cons x t ih =>
    obtain ⟨hx, ht⟩ := List.forall_mem_cons.mp ha
    rw [ones, List.sum_cons, ← ones, ih ht]
    rcases hx with rfl | rfl
    · simp
    · simp [Nat.add_comm]

/-- `(a + b) + c == a + (b + c)` for sequences — both groupings are accepted and give the same bits -/
theorem add_assoc (a b c : List Nat) (ha : Valid a) (hb : Valid b) (hc : Valid c) :
    (add a (.bs b)).bind (fun r => match r with | .ok ab => add ab (.bs c) | .error e => some (.error e)) =
    (add b (.bs c)).bind (fun r => match r with | .ok bc => add a (.bs bc) | .error e => some (.error e)) := by
  rw [add_bs a b ha hb, add_bs b c hb hc]
  simp only [Option.bind_some]
  rw [add_bs (a ++ b) c (valid_append ha hb) hc, add_bs a (b ++ c) ha (valid_append hb hc), List.append_assoc]

/-- inversion distributes over concatenation, `~(a + b) == ~a + ~b`: `a ++ b` is `a + b` (`add_bs`), `a.map flip` is `~a`
    (`invert_spec`) -/
theorem invert_add (a b : List Nat) :
    invert (a ++ b) = .ok (a.map flip ++ b.map flip) ∧
    add (a.map flip) (.bs (b.map flip)) = some (.ok (a.map flip ++ b.map flip)) := by
  refine ⟨by rw [invert_spec, List.map_append], add_bs _ _ (valid_map_flip a) (valid_map_flip b)⟩

/-- counting is additive over concatenation: `ones(a+b) = ones(a)+ones(b)`, likewise `zeros` and `len` -/
theorem ones_add (a b : List Nat) (ha : Valid a) (hb : Valid b) :
    ones (a ++ b) = ones a + ones b ∧ zeros (a ++ b) = zeros a + zeros b ∧ len (a ++ b) = len a + len b := by
  refine ⟨List.sum_append, ?_, List.length_append⟩
  rw [zeros_eq_ones_flip (valid_append ha hb), zeros_eq_ones_flip ha, zeros_eq_ones_flip hb, List.map_append]
  exact List.sum_append

/-- non-vacuity of the three laws on `101`, `0`, `11` -/
example : add [1, 0, 1] (.bs [0]) = some (.ok [1, 0, 1, 0]) ∧ add [1, 0, 1, 0] (.bs [1, 1]) = some (.ok [1, 0, 1, 0, 1, 1]) ∧
    add [1, 0, 1] (.bs [0, 1, 1]) = some (.ok [1, 0, 1, 0, 1, 1]) ∧ invert [1, 0, 1, 0] = .ok [0, 1, 0, 1] ∧
    ones [1, 0, 1, 0] = 2 ∧ zeros [1, 0, 1, 0] = 2 := by decide

/-- integer index (a Python `int` that is not a `bool`; negative from the end): a length-1 sequence holding that
    element; out of range is refused -/
theorem getitem_int (a : List Nat) (ha : Valid a) (i : Int) :
    (0 ≤ i → i < a.length → ∃ x, a[i.toNat]? = some x ∧ getitem a (.int i) = .ok [x]) ∧
    (i < 0 → -(a.length : Int) ≤ i → ∃ x, a[(i + a.length).toNat]? = some x ∧ getitem a (.int i) = .ok [x]) ∧
    ((i < -(a.length : Int) ∨ (a.length : Int) ≤ i) → getitem a (.int i) = .error .Other) := by
  refine ⟨fun h0 h1 => ?_, fun h0 h1 => ?_, fun h => ?_⟩
  · obtain ⟨k, rfl⟩ := Int.eq_ofNat_of_zero_le h0
    have hk : k < a.length := by omega
    exact ⟨a[k], List.getElem?_eq_getElem hk, getInt_of_intPos_lt ha (if_neg (by omega)) hk⟩
  · obtain ⟨k, hk⟩ := Int.eq_ofNat_of_zero_le (show 0 ≤ i + a.length by omega)
    have hlt : k < a.length := by omega
    exact ⟨a[k], by rw [hk]; exact List.getElem?_eq_getElem hlt, getInt_of_intPos_lt ha ((if_pos h0).trans hk) hlt⟩
  · exact if_pos (by unfold intPos; omega)

-- validity is not used: both sides are the same function of `(a ++ b)[k]?`
set_option linter.unusedVariables false in
/-- indexing a concatenation — a non-negative position below `len(a)` reads from `a`, a position from
    `len(a)` on (below `len(a) + len(b)`) reads from `b` at `i − len(a)`: `(a + b)[i] == a[i]`, `(a + b)[len(a) + j] == b[j]` -/
theorem getitem_add (a b : List Nat) (ha : Valid a) (hb : Valid b) (i : Int) (h0 : 0 ≤ i) :
    (i < a.length → getitem (a ++ b) (.int i) = getitem a (.int i)) ∧
    ((a.length : Int) ≤ i → i < a.length + b.length → getitem (a ++ b) (.int i) = getitem b (.int (i - a.length))) := by
  obtain ⟨k, rfl⟩ := Int.eq_ofNat_of_zero_le h0
  have hp : ∀ {n : Nat} {j : Nat}, intPos n j = j := if_neg (by omega)
  constructor
  · intro hi
    show getInt _ _ = getInt _ _
    rw [getInt_of_intPos hp, getInt_of_intPos hp, List.getElem?_append_left (by omega)]
  · intro hlo _
    show getInt _ _ = getInt _ _
    rw [show (k : Int) - a.length = (k - a.length : Nat) by omega, getInt_of_intPos hp, getInt_of_intPos hp,
      List.getElem?_append_right (by omega)]

/-- `a[:]` and `a[...]` are `a` -/
theorem getitem_full (a : List Nat) (ha : Valid a) :
    getitem a (.slice none none none) = .ok a ∧ getitem a .ellipsis = .ok a :=
  ⟨(getitem_upto ha none).trans (congrArg _ List.take_length), revalidate_of_valid ha⟩

/-- slices: for every `(start, stop, step)` with `step ≠ 0` the slice is accepted, has the CPython slice length, and
    its `k`-th element is the element of `a` at position `start' + k·step` — a position of `a`; `step = 0` is refused. -/
theorem getitem_slice (a : List Nat) (ha : Valid a) (start stop step : Option Int) :
    (step = some 0 → getitem a (.slice start stop step) = .error .ValueError) ∧
    (step ≠ some 0 → ∃ s r, span a.length start stop step = .ok s ∧ getitem a (.slice start stop step) = .ok r ∧
        r.length = s.count ∧
        ∀ k, k < s.count → 0 ≤ s.start + (k : Int) * s.step ∧ s.start + (k : Int) * s.step < a.length ∧
          r[k]? = a[(s.start + (k : Int) * s.step).toNat]?) := by
  constructor
  · rintro rfl
    rfl
  · intro hstep
    obtain ⟨s, hs⟩ := span_ok (n := a.length) (start := start) (stop := stop) hstep
    refine ⟨s, _, hs, getitem_slice_eq ha hs, by rw [List.length_map, List.length_range], fun k hk => ?_⟩
    obtain ⟨h0, h1⟩ := span_in_range hs hk
    have hlt : (s.start + (k : Int) * s.step).toNat < a.length := by omega
    refine ⟨h0, h1, ?_⟩
    rw [List.getElem?_map, List.getElem?_range hk, Option.map_some, List.getElem?_eq_getElem hlt, Option.getD_some]

/-- `a[None]` (a 2-D view) is refused -/
theorem getitem_newaxis (a : List Nat) : getitem a .newaxis = .error .ValueError := rfl

section cmp
variable {R : Type} [Ring R] [LinearOrder R] [IsStrictOrderedRing R]

-- the order structure is not used: only `+`, `*`, `<` of the samples
set_option linter.unusedSectionVars false in
/-- an accepted comparison (either operator, real or complex samples, any threshold) is a valid sequence
    of the signal's length — signal and threshold being well formed (noise, if any, of the same shape) -/
theorem cmp_valid (gt : Bool) (sig : List (R × R)) (noise : Option (List (R × R)))
    (thr : Option (List (R × R) × Option (List (R × R)))) (hwf : WF sig noise)
    (hwt : ∀ t tn, thr = some (t, tn) → WF t tn) (out : List Nat) (h : compare gt sig noise thr = .ok out) :
    Valid out ∧ out.length = sig.length := by
  obtain _ | ⟨t, tn⟩ := thr
  · cases h
  · rw [compare_some] at h
    split at h
    · next ht =>
      cases h
      refine ⟨valid_zipWith (cmpBit_valid gt) _ _, ?_⟩
      rw [List.length_zipWith, total_length sig noise hwf,
        bcast_length _ _ (by rw [total_length t tn (hwt t tn rfl)]; exact ht.2), Nat.min_self]
    · cases h

set_option linter.unusedSectionVars false in
/-- a scalar threshold or one of the signal's length is always accepted; an empty one or any other length is a ValueError -/
theorem cmp_accept_iff (gt : Bool) (sig : List (R × R)) (noise : Option (List (R × R))) (t : List (R × R))
    (tn : Option (List (R × R))) :
    (∃ out, compare gt sig noise (some (t, tn)) = .ok out) ↔ (t ≠ [] ∧ (t.length = sig.length ∨ t.length = 1)) := by
  rw [compare_some]
  split
  · next h => exact ⟨fun _ => h, fun _ => ⟨_, rfl⟩⟩
  · next h => exact ⟨fun ⟨_, ho⟩ => (nomatch ho), fun h' => absurd h' h⟩

/-- real samples, any sign: element `i` of `signal > thr` is 1 iff `|thr_i| < |signal_i + noise_i|` (`<`: the reverse),
    the threshold being broadcast when it has length 1 -/
theorem cmp_spec_abs (gt : Bool) (s : List R) (n : Option (List R)) (t : List R)
    (ht0 : t ≠ []) (ht : t.length = s.length ∨ t.length = 1) :
    compare gt (s.map re) (n.map (List.map re)) (some (t.map re, none)) =
      .ok (List.zipWith (fun x y => if (if gt then |y| < |x| else |x| < |y|) then 1 else 0) (sumR s n) (bcastR s.length t)) := by
  have ht' : total (t.map re) (none : Option (List (R × R))) = t.map re := rfl
  rw [compare_some, total_re, ht', List.length_map, List.length_map, bcast_re]
  simp only [List.zipWith_map, cmpBit, mag2_re_lt_iff_abs]
  exact if_pos ⟨mt List.map_eq_nil_iff.mp ht0, ht⟩

/-- for non-negative real signal+noise and threshold, `signal > thr` is the element-wise comparison of
    `signal + noise` with the threshold -/
theorem gt_spec (s : List R) (n : Option (List R)) (t : List R) (ht0 : t ≠ []) (ht : t.length = s.length ∨ t.length = 1)
    (hs : ∀ x ∈ sumR s n, 0 ≤ x) (hthr : ∀ y ∈ t, 0 ≤ y) :
    compare true (s.map re) (n.map (List.map re)) (some (t.map re, none)) =
      .ok (List.zipWith (fun x y => if y < x then 1 else 0) (sumR s n) (bcastR s.length t)) := by
  rw [cmp_spec_abs true s n t ht0 ht, zipWith_abs_of_nonneg true hs fun y hy => hthr y (mem_bcastR hy)]
  rfl

/-- likewise for `<` -/
theorem lt_spec (s : List R) (n : Option (List R)) (t : List R) (ht0 : t ≠ []) (ht : t.length = s.length ∨ t.length = 1)
    (hs : ∀ x ∈ sumR s n, 0 ≤ x) (hthr : ∀ y ∈ t, 0 ≤ y) :
    compare false (s.map re) (n.map (List.map re)) (some (t.map re, none)) =
      .ok (List.zipWith (fun x y => if x < y then 1 else 0) (sumR s n) (bcastR s.length t)) := by
  rw [cmp_spec_abs false s n t ht0 ht, zipWith_abs_of_nonneg false hs fun y hy => hthr y (mem_bcastR hy)]
  rfl

end cmp

/-- the model compares squared magnitudes; for real samples that is the comparison of absolute values -/
theorem abs_lt_iff_sq {R : Type} [Ring R] [LinearOrder R] [IsStrictOrderedRing R] (x y : R) :
    mag2 (re y) < mag2 (re x) ↔ |y| < |x| := mag2_re_lt_iff_abs x y

/-- for complex samples the model's comparison of squared magnitudes is that of the moduli `np.abs` returns -/
theorem norm_lt_iff_sq (z w : ℂ) : mag2 (ofC w) < mag2 (ofC z) ↔ ‖w‖ < ‖z‖ := by
  rw [mag2_ofC, mag2_ofC, Complex.norm_def, Complex.norm_def, Real.sqrt_lt_sqrt_iff (Complex.normSq_nonneg w)]

example : mk (.arr (.vec [Cell.zero, Cell.one, Cell.one])) = some (.ok [0, 1, 1]) := by decide
example : mk (.arr (.vec [Cell.zero, Cell.other])) = some (.error .ValueError) := by decide
example : mk (.arr (.nd 2 [Cell.zero, Cell.one])) = some (.error .ValueError) := by decide
example : mk (.arr (.scalar Cell.one)) = some (.ok [1]) := by decide
example : Plain [48, 32, 49, 44, 49] := ⟨by decide, by decide⟩
example : mk (.str [48, 32, 49, 44, 49]) = some (.ok [0, 1, 1]) := by decide
example : mk (.str [50]) = some (.error .ValueError) := by decide
example : Valid [0, 1, 1, 0] := (all01_iff _).mp rfl
example : add [0, 1] (.bs [1, 1]) = some (.ok [0, 1, 1, 1]) := by decide
example : radd [0, 1] (.data (.arr (.vec [Cell.one, Cell.one]))) = some (.ok [1, 1, 0, 1]) := by decide
example : getitem [0, 1, 1, 0, 1] (.slice none none (some (-2))) = .ok [1, 1, 0] := by decide
example : getitem [0, 1, 1, 0, 1] (.slice (some 1) (some (-1)) none) = .ok [1, 1, 0] := by decide
example : getitem [0, 1, 1] (.int (-1)) = .ok [1] ∧ getitem [0, 1, 1] (.int 3) = .error .Other := by decide
example : compare true [((1 : Int), (0 : Int)), (-5, 0), (3, 4)] none (some ([(4, 0)], none)) = .ok [0, 1, 1] := by decide
example : compare false [((2 : Int), (0 : Int)), (1, 0)] (some [(1, 0), (1, 0)]) (some ([(3, 0), (2, 0)], none)) = .ok [0, 0] := by
  decide

end OptiVerif.Props.C15
