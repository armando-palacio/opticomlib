/-
C10 — EDFA applies gain G to all of its input and adds ASE of the documented power.
The objects are the generic definitions of `Model/Edfa.lean` (the ones the driver runs at `Float` against
the real `EDFA` with the spied `np.random.randn(4, N)` draw), read at `R := ℝ`.
-/
import OptiVerif.Lemmas.Edfa
import OptiVerif.Lemmas.ModulatorsFilter

namespace OptiVerif.Props.C10
open OptiVerif.Modulators OptiVerif.Edfa

/-- one `randn(4, N)` draw, rows (0,1) feeding the real parts of (x, y) and rows (2,3) the imaginary parts — the layout the
    model `edfa … d0 d1 d2 d3` assumes (`aseRow s d0 d2`, `aseRow s d1 d3` in `Model/Edfa.lean`: the link is by inspection, no
    term of the model mentions `edfaPairing`); the incoming noise is multiplied by the same gain expression as the signal -/
theorem draw_layout_documented (GdB : ℝ) :
    Gen.OptDev.edfaDrawRows = 4 ∧ Gen.OptDev.edfaPairing = (0, 1, 2, 3) ∧ (gainNoise GdB : ℝ) = gainAmp GdB :=
  ⟨rfl, rfl, gainNoise_eq GdB⟩

/-- the power gain is the documented `G = 10^(G_dB/10)` -/
theorem gain_documented (GdB : ℝ) : (gainAmp GdB : ℝ) * gainAmp GdB = (10 : ℝ) ^ (GdB / 10) := sqrt_idb_mul_self GdB

/-- **signal part**: x row = √G · input x row; y row = √G · input y row for a two-polarisation input and identically
    zero for a one-polarisation input — independent of NF, of the draw and of the incoming noise -/
theorem edfa_signal (GdB NFdB h f0 fs : ℝ) (d0 d1 d2 d3 : List ℝ) (x : Modulators.Field (Cx ℝ)) (out : Out (Cx ℝ))
    (he : edfa GdB NFdB h f0 fs d0 d1 d2 d3 (.optical x) = .ok out) :
    out.x = x.sig.x.map (Cx.smul (gainAmp GdB)) ∧
      (∀ a, x.sig = .one a → out.y.length = a.length ∧ ∀ z ∈ out.y, z = czero) ∧
      (∀ a b, x.sig = .two a b → out.y = b.map (Cx.smul (gainAmp GdB))) := by
  obtain ⟨_, rfl⟩ := ite_ok_inv (edfa_eq .. ▸ he)
  refine ⟨by cases x.sig <;> rfl, fun a ha => ?_, fun a b hab => by rw [hab]; rfl⟩
  rw [ha]
  refine ⟨(List.length_map _).trans (List.length_map _), fun z hz => ?_⟩
  obtain ⟨_, _, rfl⟩ := List.mem_map.1 hz
  rfl

/-- in powers: every present signal sample is amplified by exactly `G = 10^(G_dB/10)` -/
theorem edfa_signal_power (GdB NFdB h f0 fs : ℝ) (d0 d1 d2 d3 : List ℝ) (x : Modulators.Field (Cx ℝ)) (out : Out (Cx ℝ))
    (he : edfa GdB NFdB h f0 fs d0 d1 d2 d3 (.optical x) = .ok out) :
    List.Forall₂ (fun o i : Cx ℝ => o.normSq = (10 : ℝ) ^ (GdB / 10) * i.normSq) out.x x.sig.x ∧
      ∀ a b, x.sig = .two a b →
        List.Forall₂ (fun o i : Cx ℝ => o.normSq = (10 : ℝ) ^ (GdB / 10) * i.normSq) out.y b := by
  obtain ⟨hx, _, hy⟩ := edfa_signal GdB NFdB h f0 fs d0 d1 d2 d3 x out he
  have key : ∀ r : List (Cx ℝ),
      List.Forall₂ (fun o i : Cx ℝ => o.normSq = (10 : ℝ) ^ (GdB / 10) * i.normSq) (r.map (Cx.smul (gainAmp GdB))) r := by
    intro r
    exact List.forall₂_map_left_iff.2 (List.forall₂_same.2 fun z _ => by rw [Cx.normSq_smul, gain_documented])
  refine ⟨by rw [hx]; exact key _, ?_⟩
  intro a b hab
  rw [hy a b hab]; exact key _

/-- all four rows of the output (x, y of signal and of noise) have the input's length -/
theorem edfa_two_pol (GdB NFdB h f0 fs : ℝ) (d0 d1 d2 d3 : List ℝ) (x : Modulators.Field (Cx ℝ)) (out : Out (Cx ℝ))
    (hx : x.WF) (he : edfa GdB NFdB h f0 fs d0 d1 d2 d3 (.optical x) = .ok out) :
    out.x.length = x.sig.len ∧ out.y.length = x.sig.len ∧ out.nx.length = x.sig.len ∧ out.ny.length = x.sig.len := by
  obtain ⟨⟨l0, l1, l2, l3⟩, rfl⟩ := ite_ok_inv (edfa_eq .. ▸ he)
  refine ⟨(length_ampRows _ hx.1).1, (length_ampRows _ hx.1).2, ?_⟩
  cases hn : x.noise with
  | none => exact ⟨(length_aseRow _ _ _ (l0.trans l2.symm)).trans l0, (length_aseRow _ _ _ (l1.trans l3.symm)).trans l1⟩
  | some nz => simp [addRow, length_aseRow _ _ _ (l0.trans l2.symm), length_aseRow _ _ _ (l1.trans l3.symm), l0, l1,
      length_ampRows _ (hx.shaped.2 _ hn)]

/-- **noise part** = √G · incoming noise (same polarisations, nothing on y for a one-polarisation input) + ASE, where
    ASE_x = s·(d0 + j·d2), ASE_y = s·(d1 + j·d3), s = sqrt(P_ase/4); without incoming noise it is the ASE alone -/
theorem edfa_noise (GdB NFdB h f0 fs : ℝ) (d0 d1 d2 d3 : List ℝ) (x : Modulators.Field (Cx ℝ)) (out : Out (Cx ℝ))
    (hx : x.WF) (he : edfa GdB NFdB h f0 fs d0 d1 d2 d3 (.optical x) = .ok out) :
    let s := aseScale (pAse NFdB GdB h f0 fs)
    let ax := aseRow s d0 d2
    let ay := aseRow s d1 d3
    (x.noise = none → out.nx = ax ∧ out.ny = ay) ∧
    (∀ a, x.noise = some (.one a) →
        out.nx = List.zipWith (· + ·) (a.map (Cx.smul (gainAmp GdB))) ax ∧ out.ny = ay) ∧
    (∀ a b, x.noise = some (.two a b) →
        out.nx = List.zipWith (· + ·) (a.map (Cx.smul (gainAmp GdB))) ax ∧
        out.ny = List.zipWith (· + ·) (b.map (Cx.smul (gainAmp GdB))) ay) := by
  obtain ⟨⟨l0, l1, l2, l3⟩, rfl⟩ := ite_ok_inv (edfa_eq .. ▸ he)
  refine ⟨fun hn => by rw [hn]; exact ⟨rfl, rfl⟩, fun a hn => ?_, fun a b hn => by rw [hn]; exact ⟨rfl, rfl⟩⟩
  have := hx.shaped.2 _ hn
  rw [hn]
  exact ⟨rfl, addRow_zeros _ _ (by rw [length_scaleRow, length_aseRow _ _ _ (l1.trans l3.symm), l1, this])⟩

/-- the "twin call" form used by the oracle: subtracting the ASE realisation leaves the amplified incoming noise.
    Sample-wise, for a noise sample `n` and ASE sample `a`: `(√G·n + a) − a = √G·n`. -/
theorem edfa_noise_minus_ase (g : ℝ) (n a : Cx ℝ) : (Cx.smul g n + a) - a = Cx.smul g n :=
  Cx.ext (add_sub_cancel_right _ _) (add_sub_cancel_right _ _)

/-- **ASE power** as the code computes it: `P_ase = NF·h·f0·(G−1)·fs` with `NF = 10^(NF_dB/10)`, `G = 10^(G_dB/10)`
    (`gv.fs` where the docstring of `EDFA` writes `BW`) -/
theorem p_ase_formula (NFdB GdB h f0 fs : ℝ) :
    pAse NFdB GdB h f0 fs = (10 : ℝ) ^ (NFdB / 10) * h * f0 * ((10 : ℝ) ^ (GdB / 10) - 1) * fs := by
  simp only [pAse, Gen.OptDev.edfaPase, idb_real, lit_real]; push_cast; ring

/-- `P_ase ≥ 0` for `G_dB ≥ 0` (and non-negative constants), `= 0` at `G_dB = 0` -/
theorem p_ase_nonneg (NFdB GdB h f0 fs : ℝ) (hG : 0 ≤ GdB) (hh : 0 ≤ h) (hf0 : 0 ≤ f0) (hfs : 0 ≤ fs) :
    0 ≤ (pAse NFdB GdB h f0 fs : ℝ) ∧ (pAse NFdB 0 h f0 fs : ℝ) = 0 := by
  refine ⟨pAse_nonneg NFdB GdB h f0 fs hG hh hf0 hfs, ?_⟩
  rw [p_ase_formula]; simp

/-- **total ASE variance**, stated on the scale factor `s = sqrt(P_ase/4)` of the four real components (x/y × re/im):
    `s² = P_ase/4` and `4·s² = P_ase` -/
theorem ase_total_variance (p : ℝ) (hp : 0 ≤ p) :
    (aseScale p : ℝ) * aseScale p = p / 4 ∧
      aseScale p * aseScale p + aseScale p * aseScale p + aseScale p * aseScale p + aseScale p * aseScale p = p := by
  have h := aseScale_sq p hp
  exact ⟨h, by rw [h]; ring⟩

/-- the same on a realisation: if each of the four recorded draw rows has sample second moment 1 (`Σ d² = N`), the ASE
    added by the model has total sample power (both polarisations) exactly `N·P_ase`, i.e. mean power `P_ase` -/
theorem ase_sample_power (p : ℝ) (hp : 0 ≤ p) (d0 d1 d2 d3 : List ℝ) (N : ℝ)
    (l02 : d0.length = d2.length) (l13 : d1.length = d3.length)
    (m0 : sumSq d0 = N) (m1 : sumSq d1 = N) (m2 : sumSq d2 = N) (m3 : sumSq d3 = N) :
    rowPower (aseRow (aseScale p) d0 d2) + rowPower (aseRow (aseScale p) d1 d3) = N * p := by
  rw [rowPower_aseRow _ _ _ l02, rowPower_aseRow _ _ _ l13, m0, m1, m2, m3, aseScale_sq p hp]
  ring

example : rowPower (aseRow (aseScale (8:ℝ)) [1, -1] [-1, 1]) + rowPower (aseRow (aseScale (8:ℝ)) [1, 1] [-1, -1]) = 2 * 8 :=
  ase_sample_power 8 (by norm_num) [1, -1] [1, 1] [-1, 1] [-1, -1] 2 rfl rfl
    (by norm_num [sumSq]) (by norm_num [sumSq]) (by norm_num [sumSq]) (by norm_num [sumSq])

/-- adding noise power `P_ase ≥ 0` after a gain `G` never improves a power ratio -/
theorem osnr_le (G Ps Pn Pase : ℝ) (hG : 0 < G) (hPs : 0 ≤ Ps) (hPn : 0 < Pn) (hPase : 0 ≤ Pase) :
    G * Ps / (G * Pn + Pase) ≤ Ps / Pn := by
  rw [← mul_div_mul_left Ps Pn hG.ne']
  exact div_le_div_of_nonneg_left (mul_nonneg hG.le hPs) (mul_pos hG hPn) (le_add_of_nonneg_right hPase)

/-- **the optical SNR never improves**, with the model's own gain and ASE power: for every `G_dB ≥ 0`, every NF, signal power `Ps ≥ 0`, incoming noise
    power `Pn > 0`: OSNR_out ≤ OSNR_in; strictly smaller as soon as ASE is added and there is signal -/
theorem edfa_osnr_le (NFdB GdB h f0 fs Ps Pn : ℝ) (hG : 0 ≤ GdB) (hh : 0 ≤ h) (hf0 : 0 ≤ f0) (hfs : 0 ≤ fs)
    (hPs : 0 ≤ Ps) (hPn : 0 < Pn) :
    let G : ℝ := gainAmp GdB * gainAmp GdB
    (G * Ps / (G * Pn + pAse NFdB GdB h f0 fs) ≤ Ps / Pn) ∧
      (0 < pAse NFdB GdB h f0 fs → 0 < Ps → G * Ps / (G * Pn + pAse NFdB GdB h f0 fs) < Ps / Pn) := by
  intro G
  have hGpos : 0 < G := mul_pos (gainAmp_pos GdB) (gainAmp_pos GdB)
  exact ⟨osnr_le G Ps Pn _ hGpos hPs hPn (pAse_nonneg NFdB GdB h f0 fs hG hh hf0 hfs),
    fun hA hPs' => by
      rw [← mul_div_mul_left Ps Pn hGpos.ne']
      exact div_lt_div_of_pos_left (mul_pos hGpos hPs') (mul_pos hGpos hPn) (lt_add_of_pos_right _ hA)⟩

example : (2:ℝ) * 3 / (2 * 1 + 1) ≤ 3 / 1 := osnr_le 2 3 1 1 (by norm_num) (by norm_num) (by norm_num) (by norm_num)

/-- with `BW` the result is, by definition, `BPF` (model `Filter.bpf` with the spied sections) of what `EDFA` returns without `BW` -/
theorem edfa_bw_is_bpf_after_edfa (GdB NFdB h f0 fs : ℝ) (d0 d1 d2 d3 : List ℝ) (secs : List (Filter.Sec ℝ)) (e : ℕ)
    (inp : Input (Cx ℝ)) :
    edfaBW GdB NFdB h f0 fs d0 d1 d2 d3 secs e inp =
      match edfa GdB NFdB h f0 fs d0 d1 d2 d3 inp with
      | .error err => .error err
      | .ok o => Filter.bpf secs e ⟨[o.x, o.y], some [o.nx, o.ny]⟩ := by
  unfold edfaBW
  cases edfa GdB NFdB h f0 fs d0 d1 d2 d3 inp <;> rfl

/-- **the whole output is band-limited, signal and noise rows alike**: each of the four rows is
    `F = filtCoreCx secs e` of the corresponding unfiltered row, lengths preserved; a non-optical input still raises `TypeError` -/
theorem edfa_bw_rows (GdB NFdB h f0 fs : ℝ) (d0 d1 d2 d3 : List ℝ) (secs : List (Filter.Sec ℝ)) (e : ℕ)
    (x : Modulators.Field (Cx ℝ)) (out : Out (Cx ℝ)) (hx : x.WF) (he : e < x.sig.len)
    (ho : edfa GdB NFdB h f0 fs d0 d1 d2 d3 (.optical x) = .ok out) :
    edfaBW GdB NFdB h f0 fs d0 d1 d2 d3 secs e (.optical x) =
        .ok ⟨[Filter.filtCoreCx secs e out.x, Filter.filtCoreCx secs e out.y],
             some [Filter.filtCoreCx secs e out.nx, Filter.filtCoreCx secs e out.ny]⟩ ∧
      (Filter.filtCoreCx secs e out.x).length = x.sig.len ∧ (Filter.filtCoreCx secs e out.y).length = x.sig.len ∧
      (Filter.filtCoreCx secs e out.nx).length = x.sig.len ∧ (Filter.filtCoreCx secs e out.ny).length = x.sig.len ∧
      edfaBW GdB NFdB h f0 fs d0 d1 d2 d3 secs e (Input.other : Input (Cx ℝ)) = .error .TypeError := by
  obtain ⟨lx, ly, lnx, lny⟩ := edfa_two_pol GdB NFdB h f0 fs d0 d1 d2 d3 x out hx ho
  refine ⟨?_, length_filtCoreCx_of secs lx he, length_filtCoreCx_of secs ly he, length_filtCoreCx_of secs lnx he,
    length_filtCoreCx_of secs lny he, rfl⟩
  rw [edfa_bw_is_bpf_after_edfa, ho]
  -- the argument of `Filter.bpf` is the `toSig` of the two-polarisation field with these four rows
  exact bpf_toSig secs (y := ⟨.two out.x out.y, some (.two out.nx out.ny)⟩)
    ⟨⟨lx, ly⟩, fun r hr => by cases hr; exact ⟨lnx, lny⟩⟩ he

/-- with `BW`, **`out.noise = bpf(√G·in.noise + ase)` row by row**, and by linearity of the filter this is
    `bpf(√G·in.noise) + bpf(ase)`: the incoming noise and the ASE are band-limited by the same filter as the signal.
    (Two-polarisation noisy input; `F = filtCoreCx secs e`.) -/
theorem edfa_bw_noise (GdB NFdB h f0 fs : ℝ) (d0 d1 d2 d3 : List ℝ) (secs : List (Filter.Sec ℝ)) (e : ℕ)
    (sx sy a b : List (Cx ℝ)) (hx : (⟨.two sx sy, some (.two a b)⟩ : Modulators.Field (Cx ℝ)).WF) (he : e < sx.length) :
    let s := aseScale (pAse NFdB GdB h f0 fs)
    let g := gainAmp GdB
    let F := Filter.filtCoreCx secs e
    ∀ o, edfaBW GdB NFdB h f0 fs d0 d1 d2 d3 secs e (.optical ⟨.two sx sy, some (.two a b)⟩) = .ok o →
      o.rows = [F (sx.map (Cx.smul g)), F (sy.map (Cx.smul g))] ∧
      o.noise = some [F (List.zipWith (· + ·) (a.map (Cx.smul g)) (aseRow s d0 d2)),
                      F (List.zipWith (· + ·) (b.map (Cx.smul g)) (aseRow s d1 d3))] ∧
      o.noise = some [List.zipWith (· + ·) (F (a.map (Cx.smul g))) (F (aseRow s d0 d2)),
                      List.zipWith (· + ·) (F (b.map (Cx.smul g))) (F (aseRow s d1 d3))] := by
  intro s g F o hbw
  cases ho : edfa GdB NFdB h f0 fs d0 d1 d2 d3 (.optical ⟨.two sx sy, some (.two a b)⟩) with
  | error err => rw [edfa_bw_is_bpf_after_edfa, ho] at hbw; cases hbw
  | ok out =>
    rw [(edfa_bw_rows GdB NFdB h f0 fs d0 d1 d2 d3 secs e _ out hx he ho).1] at hbw
    cases hbw
    obtain ⟨⟨l0, l1, l2, l3⟩, rfl⟩ := ite_ok_inv (edfa_eq .. ▸ ho)
    have hs := hx.shaped.2 _ rfl
    exact ⟨rfl, rfl, congrArg₂ (fun u v => some [u, v])
      (Filter.filtCoreCx_add secs e (a.map (Cx.smul g)) (aseRow s d0 d2) (by rw [List.length_map, length_aseRow _ _ _ (l0.trans l2.symm), l0, hs.1]))
      (Filter.filtCoreCx_add secs e (b.map (Cx.smul g)) (aseRow s d1 d3) (by rw [List.length_map, length_aseRow _ _ _ (l1.trans l3.symm), l1, hs.2]))⟩

/-- a non-optical input raises `TypeError`; an optical one never does -/
theorem edfa_type_error (GdB NFdB h f0 fs : ℝ) (d0 d1 d2 d3 : List ℝ) :
    edfa GdB NFdB h f0 fs d0 d1 d2 d3 (Input.other : Input (Cx ℝ)) = .error .TypeError ∧
      ∀ x : Modulators.Field (Cx ℝ), edfa GdB NFdB h f0 fs d0 d1 d2 d3 (.optical x) ≠ .error .TypeError := by
  refine ⟨rfl, fun x hc => ?_⟩
  rw [edfa_eq] at hc
  split_ifs at hc
  cases hc

/-- every optical input with a draw of matching shape is accepted -/
theorem edfa_accepts (GdB NFdB h f0 fs : ℝ) (d0 d1 d2 d3 : List ℝ) (x : Modulators.Field (Cx ℝ))
    (l0 : d0.length = x.sig.len) (l1 : d1.length = x.sig.len) (l2 : d2.length = x.sig.len) (l3 : d3.length = x.sig.len) :
    ∃ out, edfa GdB NFdB h f0 fs d0 d1 d2 d3 (.optical x) = .ok out := by
  rw [edfa_eq, if_pos ⟨l0, l1, l2, l3⟩]
  exact ⟨_, rfl⟩

/-- non-vacuity -/
example : ∃ out, edfa (R := ℝ) 20 5 1 1 1 [1, 0] [0, 1] [1, 1] [0, 0]
    (.optical ⟨.one [⟨1, 2⟩, ⟨0, 1⟩], some (.one [⟨1, 0⟩, ⟨0, 0⟩])⟩) = .ok out :=
  edfa_accepts _ _ _ _ _ _ _ _ _ _ rfl rfl rfl rfl

end OptiVerif.Props.C10
