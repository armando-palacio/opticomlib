/-
C09 — PD is a square-law detector with unit DC gain and the documented noise powers.

The objects are the generic definitions of `Model/Pd.lean` read at `R := ℝ`, the ones the driver runs at `Float` against the
real `PD` (value handed to `LPF`, `np.random.normal` arguments and draws spied).  Tables and scalar formulas come from
`Gen/PdTable.lean`, regenerated from `devices.py` on every run and pinned below to the documented values.  Statements about
`pdBody` concern the value handed to `LPF` (the filtered output enters only through an abstract `F`, `pdOut F`); those about
`lpfPre` compose with C11's model of the actual filter.  `kB`, `e` are parameters.
-/
import OptiVerif.Lemmas.PdCore
import OptiVerif.Lemmas.PdInv
import OptiVerif.Lemmas.PdFull

namespace OptiVerif.Props.C09
open OptiVerif.Pd OptiVerif.PdFull OptiVerif.Filter

/-- the seven options of the ladder, each with the variables it sums, left to right; anything else is a `ValueError` -/
theorem ladder_documented :
    Gen.PdTable.ladder =
      [("ase-only", ["i_s_n", "i_n_n", "i_dark"]), ("thermal-only", ["i_T", "i_dark"]), ("shot-only", ["i_N", "i_dark"]),
       ("ase-shot", ["i_s_n", "i_n_n", "i_N", "i_dark"]), ("ase-thermal", ["i_s_n", "i_n_n", "i_T", "i_dark"]),
       ("thermal-shot", ["i_T", "i_N", "i_dark"]), ("all", ["i_s_n", "i_n_n", "i_N", "i_T", "i_dark"])] ∧
      Gen.PdTable.ladderElseErr = .ValueError := ⟨rfl, rfl⟩

/-- the thermal / shot / ase block runs for option names containing `thermal` / `shot` / `ase`, or `all`; thermal is drawn
    before shot; both draws have `loc = 0`; `i_ase = 0` when the input carries no noise -/
theorem triggers_documented :
    Gen.PdTable.thermalTriggers = ["thermal", "all"] ∧ Gen.PdTable.shotTriggers = ["shot", "all"] ∧
      Gen.PdTable.aseTriggers = ["ase", "all"] ∧ Gen.PdTable.blockOrder = ["thermal", "shot", "ase"] ∧
      Gen.PdTable.thermalLoc = 0 ∧ Gen.PdTable.shotLoc = 0 ∧ Gen.PdTable.iAseNoNoise = 0 :=
  ⟨rfl, rfl, rfl, rfl, rfl, rfl, rfl⟩

/-- `r ∈ (0, 1]`, `T ≥ 0`, `R_load ≥ 0`, each an `int`/`float`; `include_noise` a `str`; `input` an `optical_signal` -/
theorem validation_documented :
    Gen.PdTable.inputTypes = ["optical_signal"] ∧ Gen.PdTable.inputErr = .TypeError ∧
      Gen.PdTable.rTypes = ["int", "float"] ∧ Gen.PdTable.rTypeErr = .TypeError ∧
      Gen.PdTable.rReject = [("le", 0), ("gt", 1)] ∧ Gen.PdTable.rRangeErr = .ValueError ∧
      Gen.PdTable.tTypes = ["int", "float"] ∧ Gen.PdTable.tTypeErr = .TypeError ∧
      Gen.PdTable.tReject = [("lt", 0)] ∧ Gen.PdTable.tRangeErr = .ValueError ∧
      Gen.PdTable.rLoadTypes = ["int", "float"] ∧ Gen.PdTable.rLoadTypeErr = .TypeError ∧
      Gen.PdTable.rLoadReject = [("lt", 0)] ∧ Gen.PdTable.rLoadRangeErr = .ValueError ∧
      Gen.PdTable.selTypes = ["str"] ∧ Gen.PdTable.selTypeErr = .TypeError :=
  ⟨rfl, rfl, rfl, rfl, rfl, rfl, rfl, rfl, rfl, rfl, rfl, rfl, rfl, rfl, rfl, rfl⟩

/-- documented defaults: `r = 1.0`, `T = 300`, `R_load = 50`, `include_noise = 'all'`, `i_dark = 10 nA`, `Fn = 0 dB` -/
theorem defaults_documented :
    Gen.PdTable.rDefault = 1 ∧ Gen.PdTable.tDefault = 300 ∧ Gen.PdTable.rLoadDefault = 50 ∧
      Gen.PdTable.iDarkDefault = 1 / 100000000 ∧ Gen.PdTable.fnDefault = 0 ∧ Gen.PdTable.selDefault = "all" :=
  ⟨rfl, rfl, rfl, rfl, rfl, rfl⟩

/-- thermal variance in A²: `σ²_th = 4·kB·T·Fn·B / R_load` with `B = fs/2`, `Fn = 10^(Fn_dB/10)` -/
theorem sigma_th (kB T fs FndB Rl : ℝ) :
    sigma2T kB T fs FndB Rl = 4 * kB * T * (10 : ℝ) ^ (FndB / 10) * (fs / 2) / Rl := by
  simp only [sigma2T, Gen.PdTable.sT, idb_real]
  ring

/-- shot variance in A²: `σ²_sh = 2·e·(r·(P̄_sig + P̄_noise) + i_dark)·B` with `B = fs/2`, `P̄` the record mean of
    `|·x|² + |·y|²` of the signal / of the optical-noise component (0 without one) -/
theorem sigma_sh (e r iDark fs : ℝ) (n : ℕ) (x : Pd.Field (Cx ℝ)) (hx : FieldOK n x) :
    sigma2N e r iDark fs x =
      2 * e * (r * (mean (powerRow x.sig) + (match x.noise with | none => 0 | some nz => mean (powerRow nz))) + iDark) * (fs / 2) := by
  simp only [sigma2N_eq, Gen.PdTable.sN, mean_map_mul]
  cases hn : x.noise with
  | none => rw [iAse_none]; ring
  | some nz => rw [iAse_some r (shaped_of_sameShape (hx.2 nz hn))]; ring

/-- the noise figure never reduces the thermal power: `Fn ≥ 0 dB ⇒ σ²_th ≥ 4·kB·T·B/R_load` -/
theorem sigma_th_ge (kB T fs FndB Rl : ℝ) (hk : 0 ≤ kB) (hT : 0 ≤ T) (hfs : 0 ≤ fs) (hR : 0 < Rl) (hF : 0 ≤ FndB) :
    4 * kB * T * (fs / 2) / Rl ≤ sigma2T kB T fs FndB Rl := by
  rw [sigma_th, ← idb_real]
  have h0 : 0 ≤ 4 * kB * T := mul_nonneg (mul_nonneg (by norm_num) hk) hT
  exact div_le_div_of_nonneg_right
    (mul_le_mul_of_nonneg_right (le_mul_of_one_le_right h0 (Conv.one_le_idb hF)) (div_nonneg hfs (by norm_num))) hR.le

/-- whenever `PD` returns, whatever the option and the draws, the signal part handed to the filter is
    `R_load·r·(|Ex|²+|Ey|²)` sample by sample -/
theorem pd_square_law (kB e fs r T Rl iDark Fn : ℝ) (sel : List Char) (dT dN : List ℝ) (x : Pd.Field (Cx ℝ)) (p : Pre ℝ)
    (h : (pdBody kB e fs r T Rl iDark Fn sel dT dN x).out = .ok p) :
    p.sig = (powerRow x.sig).map fun P => r * P * Rl := by
  rw [pdBody_eq] at h
  rw [pdCore_sig h, List.map_map]
  rfl

/-- the signal part of two runs with different draws (and different noise settings) is the same -/
theorem signal_deterministic (kB e fs r T T' Rl iDark iDark' Fn Fn' : ℝ) (sel sel' : List Char) (dT dN dT' dN' : List ℝ)
    (x : Pd.Field (Cx ℝ)) (p p' : Pre ℝ)
    (h : (pdBody kB e fs r T Rl iDark Fn sel dT dN x).out = .ok p)
    (h' : (pdBody kB e fs r T' Rl iDark' Fn' sel' dT' dN' x).out = .ok p') : p'.sig = p.sig := by
  rw [pd_square_law _ _ _ _ _ _ _ _ _ _ _ _ _ h, pd_square_law _ _ _ _ _ _ _ _ _ _ _ _ _ h']

/-- hypotheses on the abstract output filter `F` of `pd_cw` and `output_length`.  Both quantify over all lists, so no
    `filtCore secs edge` with `edge ≥ 1` satisfies them: for the actual filter see `pd_cw_filtered`, `pd_filtered_length` -/
def DCPreserving (F : List ℝ → List ℝ) : Prop := ∀ (n : ℕ) (c : ℝ), F (List.replicate n c) = List.replicate n c
def LengthPreserving (F : List ℝ → List ℝ) : Prop := ∀ xs, (F xs).length = xs.length

/-- constant power `P` at every sample (any phases, any split between the polarisations) gives the constant
    voltage `r·P·R_load` before the filter, and after any DC-preserving filter -/
theorem pd_cw (kB e fs r T Rl iDark Fn : ℝ) (sel : List Char) (dT dN : List ℝ) (x : Pd.Field (Cx ℝ)) (p : Pre ℝ) (P : ℝ) (n : ℕ)
    (h : (pdBody kB e fs r T Rl iDark Fn sel dT dN x).out = .ok p) (hcw : powerRow x.sig = List.replicate n P) :
    p.sig = List.replicate n (r * P * Rl) ∧
      ∀ F, DCPreserving F → (pdOut F p).sig = List.replicate n (r * P * Rl) := by
  have hs : p.sig = List.replicate n (r * P * Rl) := by
    rw [pd_square_law _ _ _ _ _ _ _ _ _ _ _ _ _ h, hcw, List.map_replicate]
  refine ⟨hs, fun F hF => ?_⟩
  simp only [pdOut, hs]
  exact hF n _

/-- non-vacuity: a two-polarisation CW field of power 4 with different phases in the two polarisations -/
example : powerRow (.two [⟨1, 0⟩, ⟨0, 1⟩] [⟨0, Real.sqrt 3⟩, ⟨Real.sqrt 3, 0⟩]) = List.replicate 2 4 := by
  simp [powerRow, Cx.normSq]
  norm_num

/-- scaling the responsivity by `a` and the load by `b` scales the signal part by `a·b` -/
theorem pd_linear_r_R (kB e fs r T Rl iDark Fn a b : ℝ) (sel sel' : List Char) (dT dN dT' dN' : List ℝ)
    (x : Pd.Field (Cx ℝ)) (p p' : Pre ℝ)
    (h : (pdBody kB e fs r T Rl iDark Fn sel dT dN x).out = .ok p)
    (h' : (pdBody kB e fs (a * r) T (b * Rl) iDark Fn sel' dT' dN' x).out = .ok p') :
    p'.sig = p.sig.map (a * b * ·) := by
  rw [pd_square_law _ _ _ _ _ _ _ _ _ _ _ _ _ h, pd_square_law _ _ _ _ _ _ _ _ _ _ _ _ _ h', List.map_map]
  apply List.map_congr_left
  intro P _
  simp only [Function.comp]
  ring

/-- multiplying the field by a complex constant `c` multiplies the signal part by `|c|²` -/
theorem pd_quadratic (kB e fs r T Rl iDark Fn : ℝ) (c : Cx ℝ) (sel sel' : List Char) (dT dN dT' dN' : List ℝ)
    (x x' : Pd.Field (Cx ℝ)) (p p' : Pre ℝ) (hx' : x'.sig = scaleRows c x.sig)
    (h : (pdBody kB e fs r T Rl iDark Fn sel dT dN x).out = .ok p)
    (h' : (pdBody kB e fs r T Rl iDark Fn sel' dT' dN' x').out = .ok p') :
    p'.sig = p.sig.map (c.normSq * ·) := by
  rw [pd_square_law _ _ _ _ _ _ _ _ _ _ _ _ _ h, pd_square_law _ _ _ _ _ _ _ _ _ _ _ _ _ h', hx', powerRow_scale,
    List.map_map, List.map_map]
  apply List.map_congr_left
  intro P _
  simp only [Function.comp]
  ring

/-- independent per-sample phase rotations of the two polarisations of the total field (signal and
    noise component alike) change nothing, for every option and every draw -/
theorem pd_phase_inv (kB e fs r T Rl iDark Fn : ℝ) (sel : List Char) (dT dN : List ℝ) (φx φy : ℕ → ℝ) (x : Pd.Field (Cx ℝ)) :
    pdBody kB e fs r T Rl iDark Fn sel dT dN (rotField φx φy x) = pdBody kB e fs r T Rl iDark Fn sel dT dN x :=
  pdBody_map_inv (rotRows φx φy) x (len_rot ..) (beatRow_rot φx φy) fun _ _ => noisePowerSum_rot ..

/-- any per-sample mixing `[[a,b],[-b̄,ā]]`, `|a|²+|b|²=1`, of the polarisations of the total field
    changes nothing (with `pd_phase_inv`: all of U(2)); `mixField` leaves a one-polarisation field as it is -/
theorem pd_unitary_inv (kB e fs r T Rl iDark Fn : ℝ) (sel : List Char) (dT dN : List ℝ) (a b : ℕ → Cx ℝ)
    (hab : ∀ k, (a k).normSq + (b k).normSq = 1) (n : ℕ) (x : Pd.Field (Cx ℝ)) (hx : FieldOK n x) :
    pdBody kB e fs r T Rl iDark Fn sel dT dN (mixField a b x) = pdBody kB e fs r T Rl iDark Fn sel dT dN x :=
  pdBody_map_inv (mixRows a b) x (len_mix a b hx.1) (beatRow_mix a b hab)
    fun nz hnz => noisePowerSum_mix a b hab (shaped_of_sameShape (hx.2 nz hnz))

/-- non-vacuity: `a = j/2`, `b = √3/2` is of the required form, with `a` not real and `b` not zero -/
example : ∃ a b : Cx ℝ, a.normSq + b.normSq = 1 ∧ a.im ≠ 0 ∧ b.re ≠ 0 :=
  ⟨⟨0, 1 / 2⟩, ⟨Real.sqrt 3 / 2, 0⟩, by
    simp only [Cx.normSq]
    linear_combination (1 / 4) * Real.mul_self_sqrt (show (0 : ℝ) ≤ 3 by norm_num), by norm_num, by positivity⟩

/-- any letter case: for each of the seven options `PD` asks the RNG for exactly the selected draws —
    thermal `N(0, σ_th)` then shot `N(0, σ_sh)`, `n` samples each — and hands to the filter
    `R_load·(selected beating terms + selected draws + i_dark)` as noise part and `R_load·r·|E|²` as signal part.
    `R_load > 0` is assumed for every option -/
theorem selection_table (kB e fs r T Rl iDark Fn : ℝ) (sel : List Char) (dT dN : List ℝ) (n : ℕ) (x : Pd.Field (Cx ℝ))
    (name : String) (sn nn th sh : Bool) (hrow : (name, sn, nn, th, sh) ∈ documented) (hsel : lower sel = name.toList)
    (hx : FieldOK n x) (hn : n ≠ 0) (hRl : 0 < Rl) (hT : th = true → dT.length = n) (hN : sh = true → dN.length = n) :
    pdBody kB e fs r T Rl iDark Fn sel dT dN x =
      ⟨(if th then [⟨0, Real.sqrt (sigma2T kB T fs Fn Rl), n⟩] else []) ++
         (if sh then [⟨0, Real.sqrt (sigma2N e r iDark fs x), n⟩] else []),
       .ok ⟨(powerRow x.sig).map (fun P => r * P * Rl),
            (specNoise n sn nn th sh (beatSN r x) (beatNN r x) dT dN iDark).map (· * Rl)⟩⟩ := by
  -- the documented row is a row `kv` of the ladder, its flags are `kv.2.contains …`
  obtain ⟨kv, hkv, heq⟩ := List.mem_map.mp (documented_perm.mem_iff.mpr hrow)
  cases heq
  rw [sigma2N_eq, pdBody_eq, hx.len, pdCore_eq (hsel ▸ decode_ladder kv hkv),
    if_pos (And.intro hn fun _ => hRl), if_pos (And.intro hT hN)]
  dsimp only
  rw [sumTerms_ladder iDark (length_beatSN hx) (length_beatNN hx) kv hkv hT hN, List.map_map]
  rfl

/-- non-vacuity / letter case: these spellings all select the documented rows -/
example : lower "ALL".toList = "all".toList ∧ lower "Ase-Only".toList = "ase-only".toList ∧
    lower "tHeRmAl-ShOt".toList = "thermal-shot".toList := by decide +kernel

/-- every option different (after lower-casing) from the seven documented ones is a `ValueError` — stated for a non-empty
    record, `R_load > 0` and both recorded draws of the record's length, whichever blocks run -/
theorem unknown_option (kB e fs r T Rl iDark Fn : ℝ) (sel : List Char) (dT dN : List ℝ) (x : Pd.Field (Cx ℝ))
    (hsel : ∀ row ∈ documented, lower sel ≠ row.1.toList) (hn : x.sig.len ≠ 0) (hRl : 0 < Rl)
    (hT : dT.length = x.sig.len) (hN : dN.length = x.sig.len) :
    (pdBody kB e fs r T Rl iDark Fn sel dT dN x).out = .error .ValueError := by
  have hd : lookup (lower sel) Gen.PdTable.ladder = none := lookup_eq_none _ _ fun kv hkv =>
    hsel (kv.1, _) (documented_perm.mem_iff.mp (List.mem_map_of_mem hkv))
  rw [pdBody_eq, pdCore_eq (names := none) (congrArg _ hd), if_pos (And.intro hn fun _ => hRl),
    if_pos (And.intro (fun _ => hT) fun _ => hN)]

example : ∀ row ∈ documented, lower "thermal".toList ≠ row.1.toList := by decide +kernel

/-- for each documented option the signal part and the noise part handed to the filter have the input's length, and so has the
    output of `PD` for any length-preserving filter -/
theorem output_length (kB e fs r T Rl iDark Fn : ℝ) (sel : List Char) (dT dN : List ℝ) (n : ℕ) (x : Pd.Field (Cx ℝ))
    (name : String) (sn nn th sh : Bool) (hrow : (name, sn, nn, th, sh) ∈ documented) (hsel : lower sel = name.toList)
    (hx : FieldOK n x) (hn : n ≠ 0) (hRl : 0 < Rl) (hT : dT.length = n) (hN : dN.length = n) :
    ∃ p, (pdBody kB e fs r T Rl iDark Fn sel dT dN x).out = .ok p ∧ p.sig.length = n ∧ p.noise.length = n ∧
      ∀ F, LengthPreserving F → (pdOut F p).sig.length = n ∧ (pdOut F p).noise.length = n := by
  rw [selection_table kB e fs r T Rl iDark Fn sel dT dN n x name sn nn th sh hrow hsel hx hn hRl (fun _ => hT) (fun _ => hN)]
  have hs : ((powerRow x.sig).map fun P => r * P * Rl).length = n := by simp [length_powerRow hx.1]
  have hnz : ((specNoise n sn nn th sh (beatSN r x) (beatNN r x) dT dN iDark).map (· * Rl)).length = n := by
    rw [List.length_map, length_specNoise _ _ _ _ _ (length_beatSN hx) (length_beatNN hx) hT hN]
  exact ⟨_, rfl, hs, hnz, fun F hF => ⟨(hF _).trans hs, (hF _).trans hnz⟩⟩

theorem invalid_input (kB e fs : ℝ) (r T Rl : PyVal ℝ) (sel : Option (List Char)) (iDark Fn : ℝ) (dT dN : List ℝ) :
    pd kB e fs r T Rl sel iDark Fn dT dN .other = ⟨[], .error .TypeError⟩ := rfl

/-- `r` not an `int`/`float` ⇒ `TypeError`; `r ≤ 0` or `r > 1` ⇒ `ValueError` — after the type of `input`, before `T`, `R_load`, `include_noise`, and
    without any RNG request -/
theorem invalid_r (kB e fs : ℝ) (r T Rl : PyVal ℝ) (sel : Option (List Char)) (iDark Fn : ℝ) (dT dN : List ℝ)
    (x : Pd.Field (Cx ℝ)) :
    (r.isInstance ["int", "float"] = false → pd kB e fs r T Rl sel iDark Fn dT dN (.optical x) = ⟨[], .error .TypeError⟩) ∧
      (∀ v, r.isInstance ["int", "float"] = true → r.val = some v → (v ≤ 0 ∨ 1 < v) →
        pd kB e fs r T Rl sel iDark Fn dT dN (.optical x) = ⟨[], .error .ValueError⟩) :=
  ⟨fun h => pd_eq (checkNum_type h) rfl rfl,
    fun v h hv hr => pd_eq ((checkNum_r r v h hv).trans (if_pos hr)) rfl rfl⟩

/-- with a valid `r`: `T` not an `int`/`float` ⇒ `TypeError`; `T < 0` ⇒ `ValueError` -/
theorem invalid_T (kB e fs : ℝ) (r T Rl : PyVal ℝ) (sel : Option (List Char)) (iDark Fn : ℝ) (dT dN : List ℝ)
    (x : Pd.Field (Cx ℝ)) (rv : ℝ) (hr : r.isInstance ["int", "float"] = true) (hrv : r.val = some rv) (hr0 : 0 < rv) (hr1 : rv ≤ 1) :
    (T.isInstance ["int", "float"] = false → pd kB e fs r T Rl sel iDark Fn dT dN (.optical x) = ⟨[], .error .TypeError⟩) ∧
      (∀ v, T.isInstance ["int", "float"] = true → T.val = some v → v < 0 →
        pd kB e fs r T Rl sel iDark Fn dT dN (.optical x) = ⟨[], .error .ValueError⟩) := by
  have h1 := checkNum_r_ok hr hrv hr0 hr1
  exact ⟨fun h => pd_eq h1 (checkNum_type h) rfl,
    fun v h hv hneg => pd_eq h1 ((checkNum_lt0 T v h hv).trans (if_pos hneg)) rfl⟩

/-- with valid `r`, `T`: `R_load` not an `int`/`float` ⇒ `TypeError`; `R_load < 0` ⇒ `ValueError`; then a non-string
    `include_noise` ⇒ `TypeError`; otherwise the body runs on the validated numbers -/
theorem invalid_Rl_sel_or_body (kB e fs : ℝ) (r T Rl : PyVal ℝ) (sel : Option (List Char)) (iDark Fn : ℝ) (dT dN : List ℝ)
    (x : Pd.Field (Cx ℝ)) (rv tv : ℝ) (hr : r.isInstance ["int", "float"] = true) (hrv : r.val = some rv) (hr0 : 0 < rv)
    (hr1 : rv ≤ 1) (ht : T.isInstance ["int", "float"] = true) (htv : T.val = some tv) (ht0 : 0 ≤ tv) :
    (Rl.isInstance ["int", "float"] = false → pd kB e fs r T Rl sel iDark Fn dT dN (.optical x) = ⟨[], .error .TypeError⟩) ∧
      (∀ v, Rl.isInstance ["int", "float"] = true → Rl.val = some v → v < 0 →
        pd kB e fs r T Rl sel iDark Fn dT dN (.optical x) = ⟨[], .error .ValueError⟩) ∧
      (∀ v, Rl.isInstance ["int", "float"] = true → Rl.val = some v → 0 ≤ v → sel = none →
        pd kB e fs r T Rl sel iDark Fn dT dN (.optical x) = ⟨[], .error .TypeError⟩) ∧
      (∀ v s, Rl.isInstance ["int", "float"] = true → Rl.val = some v → 0 ≤ v → sel = some s →
        pd kB e fs r T Rl sel iDark Fn dT dN (.optical x) = pdBody kB e fs rv tv v iDark Fn s dT dN x) := by
  have h1 := checkNum_r_ok hr hrv hr0 hr1
  have h2 := checkNum_lt0_ok (terr := Gen.PdTable.tTypeErr) (verr := Gen.PdTable.tRangeErr) ht htv ht0
  exact ⟨fun h => pd_eq h1 h2 (checkNum_type h),
    fun v h hv hneg => pd_eq h1 h2 ((checkNum_lt0 Rl v h hv).trans (if_pos hneg)),
    fun v h hv h0 hs => hs ▸ pd_eq h1 h2 (checkNum_lt0_ok h hv h0),
    fun v s h hv h0 hs => hs ▸ pd_eq h1 h2 (checkNum_lt0_ok h hv h0)⟩

/-- non-vacuity: Python `1.0`, `300`, `True` are accepted as numbers, `None` and `'1'` are not -/
example : (⟨["float", "object"], some (1 : ℝ)⟩ : PyVal ℝ).isInstance ["int", "float"] = true ∧
    (⟨["bool", "int", "object"], some (1 : ℝ)⟩ : PyVal ℝ).isInstance ["int", "float"] = true ∧
    (⟨["NoneType", "object"], none⟩ : PyVal ℝ).isInstance ["int", "float"] = false ∧
    (⟨["str", "object"], none⟩ : PyVal ℝ).isInstance ["int", "float"] = false := by decide

/-- the end-to-end model `pdFull` is, by definition, C11's `LPF` after the pre-filter model: same RNG requests, an exception
    of the pre-filter part is the result, otherwise the filter runs on what was handed to it -/
theorem pd_full_is_composition (secs : List (Sec ℝ)) (edge : ℕ) (kB e fs : ℝ) (r T Rl : PyVal ℝ) (sel : Option (List Char))
    (iDark Fn : ℝ) (dT dN : List ℝ) (inp : Input (Cx ℝ)) :
    (pdFull secs edge kB e fs r T Rl sel iDark Fn dT dN inp).reqs = (pd kB e fs r T Rl sel iDark Fn dT dN inp).reqs ∧
      (∀ err, (pd kB e fs r T Rl sel iDark Fn dT dN inp).out = .error err →
        (pdFull secs edge kB e fs r T Rl sel iDark Fn dT dN inp).out = .error err) ∧
      (∀ p, (pd kB e fs r T Rl sel iDark Fn dT dN inp).out = .ok p →
        (pdFull secs edge kB e fs r T Rl sel iDark Fn dT dN inp).out = lpfPre secs edge p) := by
  refine ⟨rfl, ?_, ?_⟩
  · intro err h; simp only [pdFull, h]
  · intro p h; simp only [pdFull, h]

/-- on a record longer than the pad length the signal part and the noise part are filtered by the same operator
    `filtCore secs edge` and keep their length -/
theorem pd_filtered_length (secs : List (Sec ℝ)) (edge : ℕ) (p : Pre ℝ) (n : ℕ) (hs : p.sig.length = n) (hn : p.noise.length = n)
    (he : edge < n) :
    ∃ q, lpfPre secs edge p = .ok q ∧ q.sig = filtCore secs edge p.sig ∧ q.noise = filtCore secs edge p.noise ∧
      q.sig.length = n ∧ q.noise.length = n :=
  ⟨_, lpfPre_eq secs edge p (hs ▸ he) (hn ▸ he), rfl, rfl, (length_filtCore _ _ _ (hs ▸ he)).trans hs,
    (length_filtCore _ _ _ (hn ▸ he)).trans hn⟩

/-- a CW field of power `P` gives, after PD's actual filter, the constant `r·P·R_load` at every sample — for sections
    satisfying the hypotheses of C11's `dc_gain` exactly (the harness checks scipy's coefficients against them up to a
    residual) and a record longer than the pad length -/
theorem pd_cw_filtered (secs : List (Sec ℝ)) (edge : ℕ) (hz : SteadyState secs 1) (hg : gainProd secs = 1)
    (kB e fs r T Rl iDark Fn : ℝ) (sel : List Char) (dT dN : List ℝ) (x : Pd.Field (Cx ℝ)) (p : Pre ℝ) (P : ℝ) (n : ℕ)
    (h : (pdBody kB e fs r T Rl iDark Fn sel dT dN x).out = .ok p) (hcw : powerRow x.sig = List.replicate n P)
    (hnl : p.noise.length = n) (he : edge < n) :
    ∃ q, lpfPre secs edge p = .ok q ∧ q.sig = List.replicate n (r * P * Rl) := by
  have hs := (pd_cw kB e fs r T Rl iDark Fn sel dT dN x p P n h hcw).1
  refine ⟨_, lpfPre_eq secs edge p (by rw [hs, List.length_replicate]; exact he) (hnl ▸ he), ?_⟩
  rw [hs]
  exact filtCore_const_of_steadyState secs hz hg edge n _ he

/-- after the filter, too, the signal part is linear in `r` and in `R_load` -/
theorem pd_filtered_linear_r_R (secs : List (Sec ℝ)) (edge : ℕ) (kB e fs r T Rl iDark Fn a b : ℝ) (sel sel' : List Char)
    (dT dN dT' dN' : List ℝ) (x : Pd.Field (Cx ℝ)) (p p' q q' : Pre ℝ)
    (h : (pdBody kB e fs r T Rl iDark Fn sel dT dN x).out = .ok p)
    (h' : (pdBody kB e fs (a * r) T (b * Rl) iDark Fn sel' dT' dN' x).out = .ok p')
    (hq : lpfPre secs edge p = .ok q) (hq' : lpfPre secs edge p' = .ok q')
    (he : edge < p.sig.length) (hn : edge < p.noise.length) (hn' : edge < p'.noise.length) :
    q'.sig = q.sig.map (a * b * ·) :=
  lpfPre_sig_scale secs edge _ (pd_linear_r_R kB e fs r T Rl iDark Fn a b sel sel' dT dN dT' dN' x p p' h h') hq hq' he hn hn'

/-- after the filter, too, the signal part scales with `|c|²` when the field is multiplied by `c` -/
theorem pd_filtered_quadratic (secs : List (Sec ℝ)) (edge : ℕ) (kB e fs r T Rl iDark Fn : ℝ) (c : Cx ℝ) (sel sel' : List Char)
    (dT dN dT' dN' : List ℝ) (x x' : Pd.Field (Cx ℝ)) (p p' q q' : Pre ℝ) (hx' : x'.sig = scaleRows c x.sig)
    (h : (pdBody kB e fs r T Rl iDark Fn sel dT dN x).out = .ok p)
    (h' : (pdBody kB e fs r T Rl iDark Fn sel' dT' dN' x').out = .ok p')
    (hq : lpfPre secs edge p = .ok q) (hq' : lpfPre secs edge p' = .ok q')
    (he : edge < p.sig.length) (hn : edge < p.noise.length) (hn' : edge < p'.noise.length) :
    q'.sig = q.sig.map (c.normSq * ·) :=
  lpfPre_sig_scale secs edge _ (pd_quadratic kB e fs r T Rl iDark Fn c sel sel' dT dN dT' dN' x x' p p' hx' h h') hq hq' he hn hn'

/-- for each documented option the noise part of PD's output is the sum of the separately filtered selected terms plus the
    dark-current offset `i_dark·R_load`, which the filter passes unchanged -/
theorem pd_filtered_noise_terms (secs : List (Sec ℝ)) (edge : ℕ) (hz : SteadyState secs 1) (hg : gainProd secs = 1)
    (kB e fs r T Rl iDark Fn : ℝ) (sel : List Char) (dT dN : List ℝ) (n : ℕ) (x : Pd.Field (Cx ℝ))
    (name : String) (sn nn th sh : Bool) (hrow : (name, sn, nn, th, sh) ∈ documented) (hsel : lower sel = name.toList)
    (hx : FieldOK n x) (hRl : 0 < Rl) (hT : dT.length = n) (hN : dN.length = n) (he : edge < n) :
    ∃ p q, (pdBody kB e fs r T Rl iDark Fn sel dT dN x).out = .ok p ∧ lpfPre secs edge p = .ok q ∧
      q.noise =
        zipAdd (zipAdd (zipAdd (zipAdd
          (filtCore secs edge ((pick n sn (beatSN r x)).map (· * Rl)))
          (filtCore secs edge ((pick n nn (beatNN r x)).map (· * Rl))))
          (filtCore secs edge ((pick n th dT).map (· * Rl))))
          (filtCore secs edge ((pick n sh dN).map (· * Rl))))
          (List.replicate n (iDark * Rl)) := by
  have hn0 : n ≠ 0 := by omega
  have hsel' := selection_table kB e fs r T Rl iDark Fn sel dT dN n x name sn nn th sh hrow hsel hx hn0 hRl
    (fun _ => hT) (fun _ => hN)
  have lSN := length_pick sn (length_beatSN (r := r) hx)
  have lNN := length_pick nn (length_beatNN (r := r) hx)
  have lT := length_pick th hT
  have lN := length_pick sh hN
  refine ⟨_, _, by rw [hsel'], lpfPre_eq secs edge _ ?_ ?_, ?_⟩
  · simp [length_powerRow hx.1, he]
  · simp [length_specNoise _ _ _ _ _ (length_beatSN hx) (length_beatNN hx) hT hN, he]
  · simp only [specNoise, ← zipAdd_map (· * Rl) (fun u v => add_mul u v Rl), List.map_replicate]
    simp only [zipAdd]
    rw [filtCore_add, filtCore_add, filtCore_add, filtCore_add, filtCore_const_of_steadyState secs hz hg edge n _ he]
    all_goals simp [lSN, lNN, lT, lN]

end OptiVerif.Props.C09
