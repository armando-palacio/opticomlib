/-
C01 — signal containers keep their shape/noise contract.  Property theorems about `Model/Container.lean`, which
mirrors `electrical_signal` / `optical_signal` of /repo/opticomlib/typing.py; sample values live in an arbitrary
carrier `α`, the driver runs the same definitions at the Gaussian integers (`Cx Int`) and at `Cx Float`.
Not theorems (runtime monitors / oracle of harness/props/c01.py): operands bit-for-bit unchanged, no shared memory;
float rounding of the FFT.
-/
import OptiVerif.Lemmas.ContainerAlg
import OptiVerif.Lemmas.ContainerFourier
import OptiVerif.Props.C02

namespace OptiVerif.Props.C01
open OptiVerif.Container
open OptiVerif.Wire (Err)

variable {α : Type}

/-- `electrical_signal(signal, noise, dtype)` — whatever the arguments (scalar, 1-D, 2-D, ragged, Python or
    ndarray data, any dtype), a call that does not raise returns a well-formed one-row object whose length is the
    last axis of `signal` and which carries noise iff `noise` was given -/
theorem ctor_electrical [DropIm α] {sig : Raw α} {noise : Option (Raw α)} {dtype : Option DType} {s : Sig α}
    (h : mkE sig noise dtype = .ok s) :
    WF s ∧ s.cls = .E ∧ s.sig.count = 1 ∧ s.len = sig.data.lastDim ∧ (s.noise.isSome ↔ noise.isSome) := by
  obtain ⟨w, c, p, l, n⟩ := mkE_spec h
  exact ⟨w, c, by rw [← w.npol_rows, p], l, by rw [n]⟩

/-- `optical_signal(signal, noise, n_pol, dtype)` — a call that does not raise returns a well-formed object with
    the polarisation count of the `n_pol` table: the given `n_pol`, else 1 for scalars and 1-D input, 2 for 2-D -/
theorem ctor_optical [DropIm α] {sig : Raw α} {noise : Option (Raw α)} {npol : Option Pol} {dtype : Option DType}
    {s : Sig α} (h : mkO sig noise npol dtype = .ok s) :
    WF s ∧ s.cls = .O ∧ s.sig.count = rawPol sig.data npol ∧ s.len = sig.data.lastDim ∧
      (s.noise.isSome ↔ noise.isSome) := by
  obtain ⟨w, c, p, l, n⟩ := mkO_spec h
  exact ⟨w, c, by rw [← w.npol_rows, p], l, by rw [n]⟩

theorem npol_table (d : Data α) :
    rawPol d (some .p1) = 1 ∧ rawPol d (some .p2) = 2 ∧
      rawPol d none = (match d with | .m _ => 2 | _ => 1) := by
  rcases d with _ | _ | (_ | _) <;> exact ⟨rfl, rfl, rfl⟩

/-- default `n_pol` in the source: 1 for scalars and 1-D input, 2 for (1,N) and (2,N) -/
theorem npol_defaults_documented :
    Gen.Container.npolDefault_scalar = 1 ∧ Gen.Container.npolDefault_vec = 1 ∧
      Gen.Container.npolDefault_row1 = 2 ∧ Gen.Container.npolDefault_row2 = 2 := ⟨rfl, rfl, rfl, rfl⟩

/-- the four operators found in the source reject exactly `self.len() != other.len() and other.len() != 1`, raise
    ValueError, and broadcast the noise of `other` to the result shape -/
theorem operator_tables_documented [Add α] [Sub α] [Neg α] [Mul α] :
    (addSpec : OpSpec α).Std ∧ (subSpec : OpSpec α).Std ∧ (rsubSpec : OpSpec α).Std ∧ (mulSpec : OpSpec α).Std :=
  ⟨addSpec_std, subSpec_std, rsubSpec_std, mulSpec_std⟩

/-- signal and noise expressions of the four noise branches, as found in the source -/
theorem operator_expressions_documented [AddCommGroup α] [Mul α] (x y n m : α) :
    ((addSpec : OpSpec α).fs x y = x + y ∧ (addSpec : OpSpec α).onlyOther n = n ∧
      (addSpec : OpSpec α).onlySelf n = n ∧ (addSpec : OpSpec α).fn n m = n + m) ∧
    ((subSpec : OpSpec α).fs x y = x - y ∧ (subSpec : OpSpec α).onlyOther n = -n ∧
      (subSpec : OpSpec α).onlySelf n = n ∧ (subSpec : OpSpec α).fn n m = n - m) ∧
    ((rsubSpec : OpSpec α).fs x y = -x + y ∧ (rsubSpec : OpSpec α).onlyOther n = n ∧
      (rsubSpec : OpSpec α).onlySelf n = -n ∧ (rsubSpec : OpSpec α).fn n m = -n + m) ∧
    ((mulSpec : OpSpec α).fs x y = x * y ∧ (mulSpec : OpSpec α).onlyOther n = n ∧
      (mulSpec : OpSpec α).onlySelf n = n ∧ (mulSpec : OpSpec α).fn n m = n * m) :=
  ⟨⟨rfl, rfl, rfl, rfl⟩, ⟨rfl, rfl, rfl, rfl⟩, ⟨rfl, rfl, rfl, rfl⟩, ⟨rfl, rfl, rfl, rfl⟩⟩

/-- **every expression of every depth** that evaluates without raising yields a well-formed object
    (non-empty rows of equal length, noise of exactly the signal's shape, `n_pol` = number of rows, electrical = one
    row), for an environment of well-formed objects -/
theorem eval_wf [Add α] [Sub α] [Neg α] [Mul α] [DropIm α] [Xform α] (ρ : Env α) (hρ : ∀ x ∈ ρ, WF x) (e : Expr α)
    {s : Sig α} (h : eval ρ e = .ok s) : WF s := (eval_spec ρ hρ e h).wf

/-- class, polarisation count and length of the value of an expression are the statically predicted ones
    (`sCls`, `sPol`, `sLen` never look at sample values): same class as the left-most operand, polarisation
    count of the operands, length of the left operand / number of slice indices / 1 for an integer index -/
theorem eval_shape [Add α] [Sub α] [Neg α] [Mul α] [DropIm α] [Xform α] [LawfulXform α] (ρ : Env α) (hρ : ∀ x ∈ ρ, WF x) (e : Expr α)
    {s : Sig α} (h : eval ρ e = .ok s) :
    s.cls = sCls ρ e ∧ s.npol = sPol ρ e ∧ s.sig.count = sPol ρ e ∧ s.len = sLen ρ e := by
  have t := eval_spec ρ hρ e h
  exact ⟨t.cls, t.npol, by rw [← t.wf.npol_rows, t.npol], t.len inferInstance⟩

/-- broadcasting of two rows (`Rows.zipB`): equal lengths combine element by element -/
theorem broadcast_same_length (f : α → α → α) (xs ys : List α) (h : ys.length = xs.length) :
    Rows.zipB f xs ys = List.zipWith f xs ys := by
  rw [Rows.zipB_eq f (Or.inl h), Rows.bc_eq_self h]

/-- broadcasting of two rows (`Rows.zipB`): a length-1 right operand is repeated along the whole row -/
theorem broadcast_length_one (f : α → α → α) (xs : List α) (y : α) :
    Rows.zipB f xs [y] = xs.map (fun x => f x y) := rfl

/-- `+`: total field of the result = total field of `a` + total field of `b` (broadcast), whatever the noise
    pattern (neither / self only / other only / both) and layout -/
theorem add_total [AddCommGroup α] [Mul α] [DropIm α] {a b s : Sig α} (ha : WF a) (hb : WF b)
    (h : add a b = .ok s) : s.total = Rows.bin (· + ·) a.total b.total :=
  binop_total addSpec_std addSpec_linear ha hb h

/-- `-`: total field of the result = total field of `a` − total field of `b` (broadcast) -/
theorem sub_total [AddCommGroup α] [Mul α] [DropIm α] {a b s : Sig α} (ha : WF a) (hb : WF b)
    (h : sub a b = .ok s) : s.total = Rows.bin (· - ·) a.total b.total :=
  binop_total subSpec_std subSpec_linear ha hb h

/-- reflected `-` (`other - self`, evaluated by `self.__rsub__(other)`): total field = total `b` − total `a` -/
theorem rsub_total [AddCommGroup α] [Mul α] [DropIm α] {a b s : Sig α} (ha : WF a) (hb : WF b)
    (h : rsub a b = .ok s) : s.total = Rows.bin (fun x y => y - x) a.total b.total := by
  have := binop_total rsubSpec_std rsubSpec_linear ha hb h
  rw [this]
  congr 1
  funext x y
  exact neg_add_eq_sub x y

/-- the result carries noise iff at least one operand does — `+`, `-`, reflected `-` and `*` alike -/
theorem noise_iff [DropIm α] (op : OpSpec α) {a b s : Sig α} (h : binop op a b = .ok s) :
    s.noise.isSome ↔ (a.noise.isSome ∨ b.noise.isSome) := by
  rw [(binop_wf h).1, OpSpec.cand_noise, Option.isSome_map, opNoise_isSome, Bool.or_eq_true]

/-- any of the four operators returns a well-formed object of the left operand's class and length, with as many rows
    as the operand that has more -/
theorem op_contract [DropIm α] {op : OpSpec α} (hstd : op.Std) {a b s : Sig α} (h : binop op a b = .ok s) :
    WF s ∧ s.cls = a.cls ∧ s.len = a.len ∧ s.sig.count = Nat.max a.sig.count b.sig.count := by
  obtain ⟨_, hs, w⟩ := binop_spec hstd h
  exact ⟨w, by rw [hs]; rfl, binop_len hstd h, binop_count h⟩

/-- acceptance: for well-formed operands (right one with no more rows than the left one: same layout, or a
    converted scalar / list / length-1 object) the operation succeeds iff the lengths agree or the right operand
    has length 1.  Like all operator theorems here this is about `binop`, i.e. after the class test of `objop`
    (`O ⊕ E` raises before; `objop_same_class`, `objop_ok`). -/
theorem accept_iff [DropIm α] {op : OpSpec α} (hstd : op.Std) {a b : Sig α} (ha : WF a) (hb : WF b)
    (hc : b.sig.count ≤ a.sig.count) : (∃ s, binop op a b = .ok s) ↔ (b.len = a.len ∨ b.len = 1) := by
  constructor
  · rintro ⟨s, h⟩; exact (binop_spec hstd h).1
  · intro hl
    refine ⟨_, binop_ok_iff.2 ⟨?_, cand_wf hstd.bcast ha hb hc hl, rfl⟩⟩
    rw [Bool.eq_false_iff, Ne, hstd.rej]
    omega

/-- an operator never raises anything but ValueError on two objects -/
theorem op_error_is_ValueError [DropIm α] {op : OpSpec α} (hstd : op.Std) {a b : Sig α} {e : Err}
    (h : binop op a b = .error e) : e = .ValueError :=
  (binop_raises hstd a b).elim h

/-- rejection, under the hypotheses of `accept_iff`: ValueError exactly when the lengths differ and the right
    operand is not of length 1 -/
theorem reject_iff [DropIm α] {op : OpSpec α} (hstd : op.Std) {a b : Sig α} (ha : WF a) (hb : WF b)
    (hc : b.sig.count ≤ a.sig.count) : binop op a b = .error .ValueError ↔ (a.len ≠ b.len ∧ b.len ≠ 1) := by
  have hacc := accept_iff hstd ha hb hc
  constructor
  · intro h
    have : ¬ ∃ s, binop op a b = .ok s := by rintro ⟨s, hs⟩; rw [hs] at h; cases h
    rw [hacc] at this
    omega
  · intro h
    cases hr : binop op a b with
    | error e => rw [op_error_is_ValueError hstd hr]
    | ok s =>
      have := hacc.1 ⟨s, hr⟩
      omega

/-- scalars broadcast: `a ⊕ scalar` (a Python scalar on either side; a numpy scalar or 0-d array on the right, on the
    left numpy dispatches first and the method is not reached) always succeeds on a well-formed object and has the
    shape of `a` -/
theorem scalar_broadcasts [DropIm α] {op : OpSpec α} (hstd : op.Std) {a : Sig α} (ha : WF a) (py : Bool)
    (t : DType) (v : α) :
    ∃ s, rawop op a ⟨py, t, .s v⟩ = .ok s ∧ s.len = a.len ∧ s.sig.count = a.sig.count ∧ s.cls = a.cls := by
  obtain ⟨o, ho, hconv⟩ : ∃ o : Sig α, o = ⟨a.cls, 1, t, .one [v], none⟩ ∧ convert a.cls ⟨py, t, .s v⟩ = .ok o :=
    ⟨_, rfl, construct_scalar a.cls py t v none⟩
  have wo : WF o := (mkCls_spec ((construct_eq _ _ _ _).symm.trans hconv)).1
  have hle : o.sig.count ≤ a.sig.count := ho ▸ Rows.count_pos _
  obtain ⟨s, hs⟩ := (accept_iff hstd ha wo hle).2 (Or.inr (ho ▸ rfl))
  refine ⟨s, (rawop_of_convert op hconv).trans hs, binop_len hstd hs, ?_, by rw [(binop_wf hs).1]; rfl⟩
  rw [binop_count hs]
  exact Nat.max_eq_left hle

/-- the normalised `(start, stop, step)` of `slice.indices(n)`: for a positive step `0 ≤ start, stop ≤ n`, for a
    negative one `-1 ≤ start, stop ≤ n - 1` -/
theorem slice_norm_bounds {st sp step : Option Int} {n : Nat} {s e k : Int}
    (h : sliceNorm st sp step n = .ok (s, e, k)) :
    k = step.getD 1 ∧ k ≠ 0 ∧ (0 < k → 0 ≤ s ∧ s ≤ n ∧ 0 ≤ e ∧ e ≤ n) ∧
      (k < 0 → -1 ≤ s ∧ s ≤ n - 1 ∧ -1 ≤ e ∧ e ≤ n - 1) := PySlice.sliceNorm_spec h

theorem slice_step_zero_iff (st sp step : Option Int) (n : Nat) :
    sliceNorm st sp step n = .error .ValueError ↔ step = some 0 := by
  rw [sliceNorm_eq_py, PySlice.sliceNorm_error]
  simp

/-- **length formula** of a slice, for every start / stop / step ≠ 0 / n: the number of selected indices is
    CPython's `(stop - start - 1) / step + 1` (resp. `(start - stop - 1) / (-step) + 1`), 0 when the range is empty -/
theorem slice_indices_len {st sp step : Option Int} {n : Nat} {idx : List Nat} {s e k : Int}
    (h : sliceIdx st sp step n = .ok idx) (hn : sliceNorm st sp step n = .ok (s, e, k)) :
    idx.length = (if k < 0 then (if e < s then ((s - e - 1) / (-k) + 1).toNat else 0)
                  else (if s < e then ((e - s - 1) / k + 1).toNat else 0)) := by
  obtain ⟨_, _, _, hn', hl, -⟩ := sliceIdx_spec h
  rw [hn] at hn'
  cases hn'
  exact hl

/-- the formula is exact: the arithmetic progression `start + j·step` stays strictly before `stop` for exactly
    the first `rangeLen` terms (positive step) -/
theorem slice_len_exact_pos {s e k : Int} (hk : 0 < k) (j : Nat) :
    j < rangeLen s e k ↔ s + j * k < e := PySlice.rangeLen_pos hk j

/-- for a negative step the progression stays strictly after `stop` for exactly the first `rangeLen` terms -/
theorem slice_len_exact_neg {s e k : Int} (hk : k < 0) (j : Nat) :
    j < rangeLen s e k ↔ e < s + j * k := PySlice.rangeLen_neg hk j

/-- all produced indices are on the axis, and the `j`-th one is `start + j·step` -/
theorem slice_indices_in_range {st sp step : Option Int} {n : Nat} {idx : List Nat}
    (h : sliceIdx st sp step n = .ok idx) :
    (∀ i ∈ idx, i < n) ∧ ∃ s e k, sliceNorm st sp step n = .ok (s, e, k) ∧
      ∀ j (hj : j < idx.length), (idx[j] : Int) = s + j * k := by
  obtain ⟨s, e, k, hn, -, hget, hin⟩ := sliceIdx_spec h
  exact ⟨hin, s, e, k, hn, hget⟩

/-- with all indices on the row nothing is dropped: the `j`-th picked sample is the sample at the `j`-th index -/
theorem pick_spec {idx : List Nat} {xs : List α} (h : ∀ i ∈ idx, i < xs.length) :
    (pick idx xs).length = idx.length ∧
      ∀ j (hj : j < idx.length), (pick idx xs)[j]? = some (xs[idx[j]]'(h _ (List.getElem_mem hj))) := by
  refine ⟨pick_length h, ?_⟩
  intro j hj
  rw [List.getElem?_eq_getElem (by rw [pick_length h]; exact hj), pick_getElem h j hj]

/-- **slicing returns exactly the selected samples**: `x[start:stop:step]` on a well-formed object either raises
    or returns the well-formed object of the same class, dtype and polarisation count whose every signal row and
    every noise row consists of the samples at CPython's slice indices (all of which lie on the axis) -/
theorem getitem_spec [DropIm α] {a s : Sig α} {st sp step : Option Int} (ha : WF a)
    (h : getSlice a st sp step = .ok s) :
    ∃ idx, sliceIdx st sp step a.len = .ok idx ∧ (∀ i ∈ idx, i < a.len) ∧ 1 ≤ idx.length ∧
      s.sig = a.sig.mapL (pick idx) ∧ s.noise = a.noise.map (Rows.mapL (pick idx)) ∧
      s.cls = a.cls ∧ s.dt = a.dt ∧ s.sig.count = a.sig.count ∧ s.len = idx.length ∧ WF s := by
  obtain ⟨idx, hi, hne, rfl⟩ := (getSlice_ok_iff ha).1 h
  have hin := sliceIdx_lt hi
  obtain ⟨l, w⟩ := Sig.mapL_pick ha hin
  exact ⟨idx, hi, hin, hne, rfl, rfl, rfl, rfl, Rows.count_mapL _ _, l, w.2 hne⟩

/-- a slice is accepted iff it selects at least one sample; a zero step or an empty selection is a ValueError -/
theorem getitem_accept_iff [DropIm α] {a : Sig α} {st sp step : Option Int} (ha : WF a) :
    (∃ s, getSlice a st sp step = .ok s) ↔ ∃ idx, sliceIdx st sp step a.len = .ok idx ∧ 1 ≤ idx.length := by
  constructor
  · rintro ⟨s, h⟩
    obtain ⟨idx, hi, hne, _⟩ := (getSlice_ok_iff ha).1 h
    exact ⟨idx, hi, hne⟩
  · rintro ⟨idx, hi, hne⟩
    exact ⟨_, (getSlice_ok_iff ha).2 ⟨idx, hi, hne, rfl⟩⟩

/-- a slice raises nothing but ValueError, whatever the object -/
theorem getitem_error_is_ValueError [DropIm α] {a : Sig α} {st sp step : Option Int} {e : Err}
    (h : getSlice a st sp step = .error e) : e = .ValueError :=
  (getSlice_raises a st sp step).elim h

/-- `x[i]` with an integer: the sample at the normalised index in every polarisation of signal and noise,
    as an object of length 1 -/
theorem index_spec [DropIm α] {a s : Sig α} {i : Int} (ha : WF a) (h : getIdx a i = .ok s) :
    ∃ k, normIdx i a.len = some k ∧ k < a.len ∧ ((0 ≤ i ∧ (k : Int) = i) ∨ (i < 0 ∧ (k : Int) = i + a.len)) ∧
      s.sig = a.sig.mapL (pick [k]) ∧ s.noise = a.noise.map (Rows.mapL (pick [k])) ∧
      s.cls = a.cls ∧ s.sig.count = a.sig.count ∧ s.len = 1 ∧ WF s := by
  obtain ⟨k, hk, rfl⟩ := (getIdx_ok_iff ha).1 h
  obtain ⟨hlt, hki⟩ := normIdx_spec hk
  obtain ⟨l, w⟩ := Sig.mapL_pick ha (idx := [k]) (by simpa using hlt)
  exact ⟨k, hk, hlt, hki, rfl, rfl, rfl, Rows.count_mapL _ _, l, w.2 (Nat.le_refl 1)⟩

/-- `x[i]` succeeds exactly for `-len ≤ i < len` -/
theorem index_accept_iff [DropIm α] {a : Sig α} (i : Int) (ha : WF a) :
    (∃ s, getIdx a i = .ok s) ↔ (-(a.len : Int) ≤ i ∧ i < a.len) := by
  rw [← normIdx_isSome_iff, Option.isSome_iff_exists]
  exact ⟨fun ⟨s, h⟩ => let ⟨k, hk, _⟩ := (getIdx_ok_iff ha).1 h; ⟨k, hk⟩,
    fun ⟨k, hk⟩ => ⟨_, (getIdx_ok_iff ha).2 ⟨k, hk, rfl⟩⟩⟩

/-- otherwise IndexError (enum `Other`); `WF a` is needed: on an ill-formed object the constructor's ValueError is
    possible -/
theorem index_error_is_IndexError [DropIm α] {a : Sig α} {i : Int} {e : Err} (ha : WF a)
    (h : getIdx a i = .error e) : e = .Other := by
  rw [getIdx_eq ha] at h
  cases hk : normIdx i a.len with
  | none => simp only [hk] at h; injection h with h; exact h.symm
  | some k => simp [hk] at h

/-- `copy(n)` is `x[:n]`; `copy()` is `x[:len]` -/
theorem copy_is_slice [DropIm α] (a : Sig α) (n : Option Int) :
    Container.copy a n = getSlice a none (some (n.getD a.len)) none := rfl

/-- `copy()` returns an equal object (same class, dtype, rows, noise) -/
theorem copy_all [DropIm α] {a : Sig α} (ha : WF a) :
    Container.copy a none = .ok ⟨a.cls, a.sig.count, a.dt, a.sig, a.noise⟩ := by
  rw [copy_is_slice]
  refine (getSlice_ok_iff ha).2 ⟨List.range a.len, sliceIdx_full a.len, ?_, ?_⟩
  · rw [List.length_range]; exact Rows.len_pos ha.valid
  · exact (Sig.mapL_of_fix ha a.dt fun xs hx => pick_range hx).symm

/-- whatever the per-row transform computes, a call `x(domain, shift)` that returns yields a well-formed object of
    the same class with dtype complex (it goes through `self.__class__(signal[, noise])`) -/
theorem transform_wf [DropIm α] [Xform α] {a s : Sig α} {d : Option Fourier.Dom} {sh : Bool}
    (h : transform a d sh = .ok s) : WF s ∧ s.cls = a.cls ∧ s.dt = .complex ∧ s.sig.count = a.sig.count := by
  obtain ⟨w, d', _, rfl⟩ := transform_ok h
  exact ⟨w, rfl, rfl, Rows.count_mapL _ _⟩

/-- any domain string other than 'w', 'f', 't' is a ValueError -/
theorem transform_bad_domain [DropIm α] [Xform α] (a : Sig α) (sh : Bool) :
    transform a none sh = .error .ValueError := rfl

/-- on a complex carrier the payload of `x(domain, shift)` IS `Fourier.call domain shift` of the payload of `x`
    (C02's model): signal and noise rows, every polarisation -/
theorem transform_is_fourier_call {R : Type} [Add R] [Sub R] [Mul R] [Div R] [Neg R] [NatCast R] [Transc R]
    {a s : Sig (Cx R)} {d : Fourier.Dom} {sh : Bool} (h : transform a (some d) sh = .ok s) :
    s.payload = Fourier.call d sh a.payload := by
  obtain ⟨_, d', hd, rfl⟩ := transform_ok h
  injection hd with hd; subst hd
  exact Sig.payload_mapL a _ _

/-- **both domains, both shift settings**: over ℝ a well-formed object is always accepted and the result is a
    well-formed object of the same class, `n_pol`, row count, length and noise presence -/
theorem transform_shape {a : Sig (Cx ℝ)} (ha : WF a) (d : Fourier.Dom) (sh : Bool) :
    ∃ s, transform a (some d) sh = .ok s ∧ WF s ∧ s.cls = a.cls ∧ s.npol = a.npol ∧ s.sig.count = a.sig.count ∧
      s.len = a.len ∧ s.noise.isSome = a.noise.isSome ∧ s.dt = .complex := transform_spec ha d sh

/-- the same shape facts read off the payload -/
theorem transform_payload_shape {a s : Sig (Cx ℝ)} {d : Fourier.Dom} {sh : Bool}
    (h : transform a (some d) sh = .ok s) :
    s.payload.sig.map List.length = a.payload.sig.map List.length ∧
      s.payload.noise.isSome = a.payload.noise.isSome := by
  rw [transform_is_fourier_call h]
  exact ⟨Props.C02.call_shape d sh a.payload, Props.C02.call_noise_iff d sh a.payload⟩

/-- a round trip `x('w')('t')` gives back the payload of `x` (C02's `call_roundtrip`, lifted to objects) -/
theorem transform_roundtrip_payload {a s t : Sig (Cx ℝ)} (h1 : transform a (some .w) false = .ok s)
    (h2 : transform s (some .t) false = .ok t) : t.payload = a.payload := by
  rw [transform_is_fourier_call h2, transform_is_fourier_call h1]
  exact Props.C02.call_roundtrip a.payload

/-- objects over the Gaussian integers, carried over to `Cx ℝ`, transform with the same class / `n_pol` / length /
    noise presence.  Only shapes are concerned: nothing of `embR` but its type is used (`mapV_wf` holds for any map of
    carriers), and the exact driver itself refuses programs with a transform node. -/
theorem transform_of_exact {a : Sig (Cx Int)} (ha : WF a) (d : Fourier.Dom) (sh : Bool) :
    ∃ s, transform (a.mapV embR) (some d) sh = .ok s ∧ WF s ∧ s.cls = a.cls ∧ s.npol = a.npol ∧
      s.len = a.len ∧ s.noise.isSome = a.noise.isSome := by
  obtain ⟨s, h, w, c, p, _, l, n, _⟩ := transform_shape (mapV_wf embR ha) d sh
  exact ⟨s, h, w, c, p, l.trans (Rows.mapV_shape embR a.sig).2.1, n.trans Option.isSome_map⟩

section examples
open OptiVerif.Container.Examples

/-- the operators really run on these (model executed by the kernel): broadcast of a noisy length-1 operand -/
example : add xa xb = .ok ⟨.O, 2, .float, .two [z 8, z 9, z 10] [z 12, z 13, z 14],
    some (.two [z 1 2, z 1 3, z 1 4] [z 3 2, z 3 2, z 3 2])⟩ := by rfl

example : ∃ s, add xa xb = .ok s ∧ s.total = Rows.bin (· + ·) xa.total xb.total ∧ s.noise.isSome := by
  obtain ⟨s, hs⟩ := (accept_iff addSpec_std xa_wf xb_wf (Nat.le_refl _)).2 (Or.inr rfl)
  exact ⟨s, hs, add_total xa_wf xb_wf hs, (noise_iff addSpec hs).2 (Or.inl rfl)⟩

/-- different lengths (3 vs 2) are rejected with ValueError -/
example : sub xa xc = .error .ValueError :=
  (reject_iff subSpec_std xa_wf xc_wf (Nat.le_refl _)).2 ⟨by decide, by decide⟩

/-- a reversed, stepped slice picks indices 2, 0 -/
example : sliceIdx none none (some (-2)) 3 = .ok [2, 0] := by decide +kernel

example : ∃ s, getSlice xa none none (some (-2)) = .ok s ∧ s.sig = .two [z 3, z 1] [z 6, z 4] := by
  have e : sliceIdx none none (some (-2)) xa.len = .ok [2, 0] := by decide +kernel
  obtain ⟨s, hs⟩ := (getitem_accept_iff xa_wf).2 ⟨[2, 0], e, by decide⟩
  obtain ⟨idx, hi, _, _, hsig, _⟩ := getitem_spec xa_wf hs
  rw [e] at hi
  injection hi with hi; subst hi
  exact ⟨s, hs, by rw [hsig]; rfl⟩

/-- a program interleaving `+`, a slice and two domain transforms, over ℝ -/
example (ρ : Env (Cx ℝ)) (hρ : ∀ x ∈ ρ, WF x) {s : Sig (Cx ℝ)}
    (h : eval ρ (.transform (.slice (.add (.transform (.var 0) (some .w) true) (.var 1)) none none (some 2))
      (some .t) false) = .ok s) :
    WF s ∧ s.len = sliceLen none none (some 2) (sLen ρ (.var 0)) :=
  ⟨eval_wf ρ hρ _ h, (eval_shape ρ hρ _ h).2.2.2⟩

end examples

end OptiVerif.Props.C01
