/-
C05 — DAC waveforms are slot-exact and SAMPLER inverts them; argument validation.
On the Gaussian branch the theorems are about the continuous prototype pulse, the impulse train and the (linear) convolution.
What stays oracle-only is the DISCRETISATION: the pulse sampled on `linspace(-4·sps, 4·sps, 8·sps)`, the average of two impulses one sample
apart, and the truncation at ±4·sps (sampled peak position, 5 % height, ±1-sample width).
-/
import OptiVerif.Lemmas.Dac
import OptiVerif.Lemmas.DacGauss

namespace OptiVerif.Props.C05
open OptiVerif.Dac OptiVerif.Gen.DacLimits

/-- `Vout` and `bias` are rejected exactly when `|·| ≥ 48` (48 V is the limit written in the source) -/
theorem level_limits_documented (v : ℚ) :
    (voutBad v = true ↔ 48 ≤ |v|) ∧ (biasBad v = true ↔ 48 ≤ |v|) := by
  simp [voutBad, biasBad, ratAbs_eq_abs]

/-- `T` is rejected exactly outside `0 < T ≤ 2·sps`, `m` exactly when `m ≤ 0` -/
theorem gauss_limits_documented (v sps : ℤ) :
    (tBad v sps = true ↔ ¬ (0 < v ∧ v ≤ 2 * sps)) ∧ (mBad v = true ↔ ¬ 1 ≤ v) := by
  simp only [tBad, mBad, Bool.or_eq_true, decide_eq_true_eq]
  constructor <;> constructor <;> intro h <;> omega

/-- the RZ pulse occupies the first `sps // 2` samples of a slot -/
theorem rzDuty_documented (sps : ℕ) : rzDuty sps = sps / 2 := rfl

/-- pulse-shape names, accepted types, kwargs defaults and exception classes found in the source -/
theorem tables_documented :
    nrzNames = ["rect", "nrz", "NRZ"] ∧ rzNames = ["rz", "RZ"] ∧ gaussNames = ["gaussian", "GAUSSIAN"] ∧
    cTypes = ["int", "float"] ∧ mTypes = ["int"] ∧ tTypes = ["int"] ∧
    voutTypes = ["int", "float"] ∧ biasTypes = ["int", "float"] ∧ cDefault = 0 ∧ mDefault = 1 ∧
    unknownShapeErr = .ValueError ∧
    cTypeErr = .TypeError ∧ mTypeErr = .TypeError ∧ tTypeErr = .TypeError ∧ voutTypeErr = .TypeError ∧
    biasTypeErr = .TypeError ∧
    mBadErr = .ValueError ∧ tBadErr = .ValueError ∧ voutBadErr = .ValueError ∧ biasBadErr = .ValueError :=
  ⟨rfl, rfl, rfl, rfl, rfl, rfl, rfl, rfl, rfl, rfl, rfl, rfl, rfl, rfl, rfl, rfl, rfl, rfl, rfl, rfl⟩

/-- **length**: an accepted `DAC(bits)` has exactly `len(bits)·sps` samples (NRZ and RZ) -/
theorem len_dac {bits sh sps c m T vout bias y}
    (h : dac bits (some sh) sps c m T vout bias = .ok (some y)) : y.length = bits.length * sps := by
  obtain ⟨-, -, rfl, -⟩ := dac_ok h
  exact length_scale_flatMap_slot sh bits sps _ _

/-- **NRZ**: every sample `i < sps` of slot `j` equals the level of bit `j`
    (`lvl Vout bias b` = `b·Vout + bias`, with `None` meaning "not applied") -/
theorem nrz_slot {bits sps c m T vout bias y}
    (h : dac bits (some .nrz) sps c m T vout bias = .ok (some y))
    (j i : ℕ) (hj : j < bits.length) (hi : i < sps) :
    y[j * sps + i]? = some (lvl vout.toRat? bias.toRat? (bits[j] : ℚ)) := by
  rw [getElem?_dac h j i hj hi, if_pos (Or.inl rfl)]

/-- **RZ**: the first `sps // 2` samples of slot `j` carry the level of bit `j`, the rest the level of 0
    (odd `sps` included: `sps // 2` is the floor) -/
theorem rz_slot {bits sps c m T vout bias y}
    (h : dac bits (some .rz) sps c m T vout bias = .ok (some y))
    (j i : ℕ) (hj : j < bits.length) (hi : i < sps) :
    y[j * sps + i]? = some (lvl vout.toRat? bias.toRat? (if i < sps / 2 then (bits[j] : ℚ) else 0)) := by
  rw [getElem?_dac h j i hj hi, rzDuty_documented]
  simp only [reduceCtorEq, false_or]

/-- **NRZ, documented form**: sample = `bias + Vout·bits[j]` -/
theorem nrz_slot_value {bits sps c m T vout bias y V B}
    (h : dac bits (some .nrz) sps c m T vout bias = .ok (some y))
    (hV : vout.toRat? = some V) (hB : bias.toRat? = some B)
    (j i : ℕ) (hj : j < bits.length) (hi : i < sps) :
    y[j * sps + i]? = some (B + V * (bits[j] : ℚ)) := by
  rw [nrz_slot h j i hj hi, hV, hB, lvl_some]

/-- **RZ, documented form**: `bias + Vout·bits[j]` on the first `sps // 2` samples, `bias` on the rest -/
theorem rz_slot_value {bits sps c m T vout bias y V B}
    (h : dac bits (some .rz) sps c m T vout bias = .ok (some y))
    (hV : vout.toRat? = some V) (hB : bias.toRat? = some B)
    (j i : ℕ) (hj : j < bits.length) (hi : i < sps) :
    y[j * sps + i]? = some (if i < sps / 2 then B + V * (bits[j] : ℚ) else B) := by
  rw [rz_slot h j i hj hi, hV, hB, lvl_some]
  split <;> simp

/-- **SAMPLER(x, k)** (0 ≤ k) returns exactly the samples `k, k+sps, k+2·sps, …` of the signal and of the noise,
    and keeps "no noise" as "no noise" -/
theorem sampler_spec {sig noise k sps s n} (hk : 0 ≤ k)
    (h : sampler sig noise k sps = .ok (s, n)) :
    (∀ m, s[m]? = if k.toNat + m * sps < sig.length then sig[k.toNat + m * sps]? else none) ∧
    (noise = none → n = none) ∧
    (∀ nz, noise = some nz → ∃ n', n = some n' ∧
      ∀ m, n'[m]? = if k.toNat + m * sps < nz.length then nz[k.toNat + m * sps]? else none) := by
  obtain ⟨hs, rfl, rfl⟩ := sampler_ok h
  simp only [slice_normStart _ hk]
  have key : ∀ (xs : List ℚ) (m : ℕ), (slice xs k.toNat sps)[m]? =
      if k.toNat + m * sps < xs.length then xs[k.toNat + m * sps]? else none := fun xs m => by
    rw [getElem?_slice _ _ _ _ hs]
    split
    · rfl
    · exact List.getElem?_eq_none (by omega)
  refine ⟨key sig, ?_, ?_⟩
  · rintro rfl; rfl
  · rintro nz rfl
    exact ⟨_, rfl, key nz⟩

/-- number of samples returned: one per started stride -/
theorem sampler_length {sig noise k sps s n} (hk : 0 ≤ k) (hlt : k.toNat < sig.length)
    (h : sampler sig noise k sps = .ok (s, n)) :
    s.length = (sig.length - k.toNat + sps - 1) / sps := by
  obtain ⟨hs, rfl, -⟩ := sampler_ok h
  rw [slice_normStart _ hk, length_slice _ _ _ hs, sliceCount, if_neg (by omega)]

/-- **NRZ inverse**: sampling an NRZ waveform at ANY instant `k < sps` returns the level of every bit -/
theorem sampler_dac_nrz {bits sps c m T vout bias y} (k : ℕ) (hk : k < sps)
    (h : dac bits (some .nrz) sps c m T vout bias = .ok (some y)) :
    sampler y none k sps = .ok (bits.map (fun (b : ℕ) => lvl vout.toRat? bias.toRat? (b : ℚ)), none) :=
  sampler_dac k hk (Or.inl rfl) h

/-- **RZ inverse**: sampling an RZ waveform at any instant inside the pulse (`k < sps // 2`) returns the level of every bit -/
theorem sampler_dac_rz {bits sps c m T vout bias y} (k : ℕ) (hk : k < sps / 2)
    (h : dac bits (some .rz) sps c m T vout bias = .ok (some y)) :
    sampler y none k sps = .ok (bits.map (fun (b : ℕ) => lvl vout.toRat? bias.toRat? (b : ℚ)), none) :=
  sampler_dac k (by omega) (Or.inr (rzDuty_documented sps ▸ hk)) h

/-- **decision**: comparing the level `bias + Vout·b` of a bit `b ∈ {0,1}` with `bias + Vout/2` (nearer level, written
    `(x − (bias + Vout/2))·Vout > 0` so that it is valid for negative `Vout` too) returns `b`, for every `Vout ≠ 0` -/
theorem decision_returns_bit (V B : ℚ) (hV : V ≠ 0) (b : ℕ) (hb : b ≤ 1) :
    decideBit V B (lvl (some V) (some B) (b : ℚ)) = b := by
  rw [lvl_some, decideBit_level V B _ hV]
  rcases Nat.le_one_iff_eq_zero_or_eq_one.mp hb with rfl | rfl <;> norm_num

/-- **DAC → SAMPLER → decision returns the input bits** (NRZ: any `k < sps`; RZ: `k < sps // 2`),
    for every bit list, every `sps`, every `Vout ≠ 0` and every bias the DAC accepts -/
theorem roundtrip_returns_bits {bits sh sps V B k ds}
    (hk : (sh = .nrz ∧ k < sps) ∨ (sh = .rz ∧ k < sps / 2)) (hV : V ≠ 0)
    (h : roundtrip bits sh sps V B k = .ok ds) : ds = bits := by
  obtain ⟨-, hk, hin⟩ := inside_pulse (rzDuty_documented sps) hk
  obtain ⟨y, hd⟩ := roundtrip_ok h
  rw [roundtrip_of_dac hk hin hd] at h
  cases h
  -- the bits are 0/1 because the request was accepted
  calc bits.map _ = bits.map id :=
        List.map_congr_left fun b hb => decision_returns_bit V B hV b ((dac_ok hd).1 b hb)
    _ = bits := List.map_id _

/-- the round trip does succeed on every in-range request (so `roundtrip_returns_bits` is not vacuous) -/
theorem roundtrip_succeeds {bits sh sps V B k}
    (hk : (sh = .nrz ∧ k < sps) ∨ (sh = .rz ∧ k < sps / 2))
    (hb : ∀ b ∈ bits, b ≤ 1) (hne : bits ≠ []) (hV : |V| < 48) (hB : |B| < 48) :
    ∃ ds, roundtrip bits sh sps V B k = .ok ds := by
  obtain ⟨hsh, hk, hin⟩ := inside_pulse (rzDuty_documented sps) hk
  have hvb : voutBad V = false := Bool.eq_false_iff.mpr (mt (level_limits_documented V).1.mp (not_le.mpr hV))
  have hbb : biasBad B = false := Bool.eq_false_iff.mpr (mt (level_limits_documented B).2.mp (not_le.mpr hB))
  have hval : validate (bits.all (· ≤ 1)) (some sh) sps none none none (.float V) (.float B) = .ok (some V, some B) := by
    rw [validate_eq, List.all_eq_true.mpr (by simpa using hb), checkLevel_float rfl hvb, checkLevel_float rfl hbb]
    simp only [Bool.not_true, if_neg hsh]
    rfl
  have hlen : scale (bits.flatMap (slot sh sps)) (some V) (some B) ≠ [] := by
    apply List.ne_nil_of_length_pos
    rw [length_scale_flatMap_slot]
    exact Nat.mul_pos (List.length_pos_iff.mpr hne) (by omega)
  exact ⟨_, roundtrip_of_dac hk hin (dac_of_validate hsh hval hlen)⟩

section Gauss
open OptiVerif.DacGauss OptiVerif.Gen.DacGauss

/-- the literals found in the Gaussian branch of the source, and the translated formula of `k` -/
theorem gauss_constants_documented :
    pulseDen = 2 ∧ pulseExpFactor = 2 ∧ spanLo = 4 ∧ spanHi = 4 ∧ pointsPerSps = 8 ∧ convDiv = 2 ∧
    (∀ sps, strideA sps = sps / 2 ∧ strideB sps = sps / 2 - 1) ∧
    (∀ m : ℕ, (kFormula m : ℝ) = 2 * Real.exp (1 / (2 * (m : ℝ)) * Real.log (2 * Real.log 2))) :=
  ⟨rfl, rfl, rfl, rfl, rfl, rfl, fun _ => ⟨rfl, rfl⟩, kFormula_real⟩

/-- the modulus of the prototype `p(t, Tw) = exp(−(1+jc)/2·(t/Tw)^(2m))` is the super-Gaussian `exp(−½·(t/Tw)^(2m))` -/
theorem gauss_modulus (c : ℝ) (m : ℕ) (t Tw : ℝ) :
    cabs (pulseAt c m t Tw) = Real.exp (-(1 / 2) * (t / Tw) ^ (2 * m)) := cabs_pulseAt c m t Tw

/-- **peak**: `|p(0)| = 1` for every order `m ≥ 1`, every width and chirp -/
theorem gauss_peak (c : ℝ) (m : ℕ) (hm : 1 ≤ m) (Tw : ℝ) : cabs (pulseAt c m 0 Tw) = 1 := by
  rw [cabs_pulseAt, zero_div, zero_pow (by omega), mul_zero, Real.exp_zero]

/-- **half maximum at ±T/2**: with the code's `k`, `|p(±T/2, T/k)| = 1/2` for every `m ≥ 1` and `T > 0` —
    the amplitude FWHM of the prototype is exactly `T` -/
theorem gauss_half_at_half_T (c : ℝ) (m : ℕ) (hm : 1 ≤ m) (T : ℝ) (hT : 0 < T) :
    cabs (pulseAt c m (T / 2) (T / kFormula m)) = 1 / 2 ∧ cabs (pulseAt c m (-(T / 2)) (T / kFormula m)) = 1 / 2 := by
  have e : T / 2 / (T / kFormula m) = (kFormula m : ℝ) / 2 := by field_simp
  have e' : -(1 / 2) * (2 * Real.log 2) = -Real.log 2 := by ring
  rw [pulseAt_neg, and_self, cabs_pulseAt, e, kFormula_half_pow m hm, e', Real.exp_neg, Real.exp_log (by norm_num)]
  norm_num

/-- **even**: `p(−t) = p(t)` (the complex sample, not only its modulus) -/
theorem gauss_even (c : ℝ) (m : ℕ) (t Tw : ℝ) : pulseAt c m (-t) Tw = pulseAt c m t Tw := pulseAt_neg c m t Tw

/-- **strictly decreasing in |t|** (`m ≥ 1`, positive width) -/
theorem gauss_strict_anti (c : ℝ) (m : ℕ) (hm : 1 ≤ m) (Tw : ℝ) (hT : 0 < Tw) (t₁ t₂ : ℝ) (h : |t₁| < |t₂|) :
    cabs (pulseAt c m t₂ Tw) < cabs (pulseAt c m t₁ Tw) := by
  rw [cabs_pulseAt_abs c m t₁, cabs_pulseAt_abs c m t₂]
  exact cabs_pulseAt_strictAnti c m hm Tw hT (abs_nonneg t₁) (abs_nonneg t₂) h

/-- hence the pulse is above half maximum exactly on `|t| < T/2` -/
theorem gauss_above_half_iff (c : ℝ) (m : ℕ) (hm : 1 ≤ m) (T : ℝ) (hT : 0 < T) (t : ℝ) :
    1 / 2 < cabs (pulseAt c m t (T / kFormula m)) ↔ |t| < T / 2 := by
  rw [cabs_pulseAt_abs c m t, ← (gauss_half_at_half_T c m hm T hT).1]
  exact StrictAntiOn.lt_iff_gt (cabs_pulseAt_strictAnti c m hm _ (div_pos hT (kFormula_pos m)))
    (Set.mem_Ici.mpr (by linarith)) (Set.mem_Ici.mpr (abs_nonneg t))

/-- **the chirp does not change the modulus** -/
theorem gauss_chirp_modulus (c : ℝ) (m : ℕ) (t Tw : ℝ) : cabs (pulseAt c m t Tw) = cabs (pulseAt 0 m t Tw) := by
  rw [cabs_pulseAt, cabs_pulseAt]

/-- **impulse train**: `s` has `len·sps` samples; in slot `q` the two positions `sps//2` and `sps//2 − 1` carry `data[q]`,
    every other position is 0 — for every list and every `sps ≥ 2` -/
theorem impulse_train_spec (data : List ℝ) (sps : ℕ) (hs : 2 ≤ sps) :
    (train data sps).length = data.length * sps ∧
    ∀ q r, q < data.length → r < sps →
      (train data sps)[q * sps + r]? = if r = sps / 2 ∨ r = sps / 2 - 1 then data[q]? else some 0 :=
  ⟨length_train data sps, fun q r hq hr => getElem?_train data sps hs q r hq hr⟩

/-- **length**: the Gaussian waveform has `len·sps` samples ("same" keeps the length of the impulse train) -/
theorem gauss_len (data : List ℝ) (sps : ℕ) (c : ℝ) (m T : ℕ) (vout bias : Option ℝ) :
    (DacGauss.scale (core data sps c m T) vout bias).length = data.length * sps := by
  unfold DacGauss.scale
  cases vout <;> cases bias <;> simp [length_core]

/-- **the convolution is the direct sum** `x[i]·2 = Σ_k s[k]·pulse[start + i − k]` with zero padding and scipy's "same" start
    `(len(pulse) − 1)//2` -/
theorem conv_direct_sum (s : List ℝ) (h : List (Cx ℝ)) (i : ℕ) (hi : i < s.length) :
    ∃ z, (convSame s h)[i]? = some z ∧
      z.toC = ∑ k ∈ Finset.range s.length, (optR s[k]? : ℂ) * Hc h ((((h.length - 1) / 2 + i : ℕ) : ℤ) - (k : ℤ)) :=
  convSame_spec s h i hi

/-- **linearity / superposition**: for every slot data, `sps ≥ 2`, `c`, `m`, `T`, sample `i` of the Gaussian waveform is
    `Σ_q data[q]·W(i − q·sps)`, where `W` is the waveform of ONE isolated bit as a function of the offset from its slot start.
    So the waveform of a bit list is the sum of the shifted single-bit waveforms. -/
theorem conv_linear (data : List ℝ) (sps : ℕ) (hs : 2 ≤ sps) (c : ℝ) (m T : ℕ) (i : ℕ) (hi : i < data.length * sps) :
    ∃ z, (core data sps c m T)[i]? = some z ∧
      z.toC = ∑ q ∈ Finset.range data.length,
        (optR data[q]? : ℂ) * W (pulse c m T sps) sps ((i : ℤ) - ((q * sps : ℕ) : ℤ)) := by
  obtain ⟨z, hz, hsum⟩ := convSame_train data sps hs (pulse c m T sps) i hi
  refine ⟨cdiv z (lit convDiv), by rw [core, List.getElem?_map, hz]; rfl, ?_⟩
  rw [toC_cdiv, ← hsum]
  simp [convDiv]

/-- an isolated 1 in slot `q₀` gives exactly the shifted single-bit waveform: the oracle measures peak and width on an isolated 1,
    and by `conv_linear` every waveform is a sum of these -/
theorem isolated_one (data : List ℝ) (sps : ℕ) (hs : 2 ≤ sps) (c : ℝ) (m T : ℕ) (q₀ : ℕ) (hq : q₀ < data.length)
    (h1 : data[q₀]? = some 1) (h0 : ∀ q, q ≠ q₀ → q < data.length → data[q]? = some 0)
    (i : ℕ) (hi : i < data.length * sps) :
    ∃ z, (core data sps c m T)[i]? = some z ∧ z.toC = W (pulse c m T sps) sps ((i : ℤ) - ((q₀ * sps : ℕ) : ℤ)) := by
  obtain ⟨z, hz, hsum⟩ := conv_linear data sps hs c m T i hi
  refine ⟨z, hz, ?_⟩
  rw [hsum, Finset.sum_eq_single q₀]
  · simp [h1, optR]
  · intro q hq' hne
    rw [h0 q hne (Finset.mem_range.mp hq')]
    simp [optR]
  · intro h; exact absurd (Finset.mem_range.mpr hq) h

/-! non-vacuity of the hypotheses above -/
example : cabs (pulseAt (3 / 2 : ℝ) 2 (5 / 2) (5 / kFormula 2)) = 1 / 2 :=
  (gauss_half_at_half_T (3 / 2) 2 (by norm_num) 5 (by norm_num)).1
example : cabs (pulseAt (0 : ℝ) 4 1 (8 / kFormula 4)) > 1 / 2 :=
  (gauss_above_half_iff 0 4 (by norm_num) 8 (by norm_num) 1).mpr (by norm_num)
example : (train ([0, 1, 1] : List ℝ) 4)[1 * 4 + 1]? = some (1 : ℝ) := by
  rw [(impulse_train_spec ([0, 1, 1] : List ℝ) 4 (by norm_num)).2 1 1 (by simp) (by norm_num)]; simp
example : ∃ z, (core ([0, 1, 0] : List ℝ) 4 (0 : ℝ) 1 4)[5]? = some z ∧
    z.toC = W (pulse (0 : ℝ) 1 4 4) 4 ((5 : ℤ) - ((1 * 4 : ℕ) : ℤ)) :=
  isolated_one ([0, 1, 0] : List ℝ) 4 (by norm_num) 0 1 4 1 (by simp) (by simp)
    (by intro q hne hq; have : q = 0 ∨ q = 2 := by simp at hq; omega
        rcases this with rfl | rfl <;> simp) 5 (by simp)

end Gauss

/-- accepted as a scalar by `isinstance(·, (int, float))`: Python `int`, `bool` (a subclass of `int`), `float`,
    `numpy.float64`; not `numpy.int64` (`Vout=np.int64(2)` is a TypeError) -/
def numLike : PyVal → Bool
  | .int _ | .bool _ | .float _ | .npfloat _ => true
  | _ => false

/-- accepted by `isinstance(·, int)`: Python `int`, `bool` (so `m=True` passes) -/
def intLike : PyVal → Bool
  | .int _ | .bool _ => true
  | _ => false

/-- rule for `Vout` / `bias`: `None` skips; non-scalars → TypeError; `|·| ≥ 48` → ValueError (the code's comparison; the
    docstring of `DAC` and the error text say "[-48, 48]") -/
def levelSpec (v : PyVal) : Except Wire.Err Unit :=
  if v = .pynone then .ok ()
  else if !numLike v then .error .TypeError
  else match v.toRat? with
    | some q => if 48 ≤ |q| then .error .ValueError else .ok ()
    | none => .error .TypeError

def intKwSpec (v : PyVal) (ok : ℤ → Prop) [DecidablePred ok] : Except Wire.Err Unit :=
  if !intLike v then .error .TypeError
  else match v.toInt? with
    | some n => if ok n then .ok () else .error .ValueError
    | none => .ok ()

def andThen (a b : Except Wire.Err Unit) : Except Wire.Err Unit :=
  match a with
  | .error e => .error e
  | .ok _ => b

/-- documented rule of the Gaussian keywords: `c` scalar, `m` int ≥ 1, `T` int with `0 < T ≤ 2·sps` (defaults 0, 1, sps) -/
def gaussSpec (sps : ℕ) (c m T : Option PyVal) : Except Wire.Err Unit :=
  if !numLike (c.getD (.float 0)) then .error .TypeError else
    andThen (intKwSpec (m.getD (.int 1)) (fun n => 1 ≤ n))
      (intKwSpec (T.getD (.int sps)) (fun n => 0 < n ∧ n ≤ 2 * (sps : ℤ)))

/-- the documented decision table, written independently of the generated constants -/
def spec (bitsOk : Bool) (shape : Option Shape) (sps : ℕ) (c m T : Option PyVal) (vout bias : PyVal) :
    Except Wire.Err Unit :=
  if !bitsOk then .error .ValueError else
  match shape with
  | none => .error .ValueError
  | some sh => andThen (if sh = .gauss then gaussSpec sps c m T else .ok ()) (andThen (levelSpec vout) (levelSpec bias))

theorem isInst_scalar (v : PyVal) : isInst v ["int", "float"] = numLike v := by cases v <;> rfl

theorem isInst_int (v : PyVal) : isInst v ["int"] = intLike v := by cases v <;> rfl

theorem checkIntKw_eq (v : PyVal) (tys : List String) (bad : ℤ → Bool) (ok : ℤ → Prop) [DecidablePred ok]
    (hty : isInst v tys = intLike v) (hbad : ∀ n, bad n = true ↔ ¬ ok n) :
    checkIntKw v tys .TypeError bad .ValueError = intKwSpec v ok := by
  unfold checkIntKw intKwSpec
  rw [hty]
  cases v.toInt? with
  | none => rfl
  | some n => by_cases h : ok n <;> simp [h, hbad]

theorem checkIntKw_m (v : PyVal) :
    checkIntKw v mTypes mTypeErr mBad mBadErr = intKwSpec v (fun n => 1 ≤ n) :=
  checkIntKw_eq v _ _ _ (isInst_int v) fun n => (gauss_limits_documented n 0).2

theorem checkIntKw_T (v : PyVal) (sps : ℕ) :
    checkIntKw v tTypes tTypeErr (fun t => tBad t sps) tBadErr = intKwSpec v (fun n => 0 < n ∧ n ≤ 2 * (sps : ℤ)) :=
  checkIntKw_eq v _ _ _ (isInst_int v) fun n => (gauss_limits_documented n sps).1

theorem checkGauss_spec (sps : ℕ) (c m T : Option PyVal) :
    checkGauss sps c m T = gaussSpec sps c m T := by
  obtain ⟨-, -, -, hc, -, -, -, -, hcd, hmd, -⟩ := tables_documented
  rw [checkGauss_eq, checkIntKw_m, checkIntKw_T, hc, isInst_scalar, hcd, hmd, gaussSpec]
  cases numLike (c.getD (.float 0))
  · rfl
  · cases intKwSpec (m.getD (.int 1)) (fun n => 1 ≤ n) <;> rfl

theorem checkLevel_eq (v : PyVal) (tys : List String) (bad : ℚ → Bool)
    (hty : isInst v tys = numLike v) (hbad : ∀ q, bad q = true ↔ 48 ≤ |q|) :
    ((checkLevel v tys .TypeError bad .ValueError).map fun _ => ()) = levelSpec v := by
  by_cases hv : v = .pynone
  · subst hv; rfl
  · rw [checkLevel_of_ne hv, levelSpec, if_neg hv, hty]
    cases numLike v
    · rfl
    · cases v.toRat? with
      | none => rfl
      | some q => by_cases h : 48 ≤ |q| <;> simp [h, hbad, Except.map]

theorem checkLevel_spec (v : PyVal) :
    ((checkLevel v voutTypes voutTypeErr voutBad voutBadErr).map fun _ => ()) = levelSpec v ∧
    ((checkLevel v biasTypes biasTypeErr biasBad biasBadErr).map fun _ => ()) = levelSpec v :=
  ⟨checkLevel_eq v _ _ (isInst_scalar v) fun q => (level_limits_documented q).1,
   checkLevel_eq v _ _ (isInst_scalar v) fun q => (level_limits_documented q).2⟩

/-- the ladder found in the source decides exactly the documented table -/
theorem validate_spec (bitsOk : Bool) (shape : Option Shape) (sps : ℕ) (c m T : Option PyVal) (vout bias : PyVal) :
    ((validate bitsOk shape sps c m T vout bias).map fun _ => ()) = spec bitsOk shape sps c m T vout bias := by
  rw [validate_eq]
  unfold spec
  cases bitsOk
  · rfl
  · cases shape with
    | none => rfl
    | some sh =>
      simp only [← checkGauss_spec, ← (checkLevel_spec vout).1, ← (checkLevel_spec bias).2]
      -- both sides stop at the first failing stage
      cases (if sh = .gauss then checkGauss sps c m T else .ok ()) <;>
        cases checkLevel vout voutTypes voutTypeErr voutBad voutBadErr <;>
        cases checkLevel bias biasTypes biasTypeErr biasBad biasBadErr <;> rfl

/-- anything the DAC accepts has `|Vout| < 48` and `|bias| < 48` -/
theorem accepted_levels_in_range {bitsOk shape sps c m T vout bias v b}
    (h : validate bitsOk shape sps c m T vout bias = .ok (v, b)) :
    (∀ V, v = some V → |V| < 48) ∧ (∀ B, b = some B → |B| < 48) := by
  obtain ⟨-, ⟨-, hv⟩, ⟨-, hb⟩⟩ := validate_ok h
  refine ⟨fun V e => not_le.mp (mt (level_limits_documented V).1.mpr ?_),
    fun B e => not_le.mp (mt (level_limits_documented B).2.mpr ?_)⟩
  · rw [hv V e]; simp
  · rw [hb B e]; simp

/-- an unknown pulse shape (or a non-string) is rejected with ValueError whatever the other arguments are -/
theorem unknown_shape_rejected (sps : ℕ) (c m T : Option PyVal) (vout bias : PyVal) :
    validate true none sps c m T vout bias = .error .ValueError :=
  Except.map_eq_error.mp (validate_spec true none sps c m T vout bias)

/-- a `Vout` that is not an int/float instance (str, complex, list, numpy integer) is a TypeError (NRZ/RZ) -/
theorem vout_wrong_type_rejected (sh : Shape) (hsh : sh ≠ .gauss) (sps : ℕ) (c m T : Option PyVal) (vout bias : PyVal)
    (hv : vout = .complex ∨ vout = .str ∨ vout = .list ∨ ∃ n, vout = .npint n) :
    validate true (some sh) sps c m T vout bias = .error .TypeError := by
  rw [← Except.map_eq_error, validate_spec]
  rcases hv with rfl | rfl | rfl | ⟨n, rfl⟩ <;> simp [spec, hsh, andThen, levelSpec, numLike]

/-- a Python `float` `Vout` with `|Vout| ≥ 48` is a ValueError (NRZ/RZ) -/
theorem vout_out_of_range_rejected (sh : Shape) (hsh : sh ≠ .gauss) (sps : ℕ) (c m T : Option PyVal) (q : ℚ)
    (bias : PyVal) (hq : 48 ≤ |q|) :
    validate true (some sh) sps c m T (.float q) bias = .error .ValueError := by
  rw [← Except.map_eq_error, validate_spec]
  simp [spec, hsh, andThen, levelSpec, numLike, PyVal.toRat?, hq]

example : dac [0, 1, 1, 0] (some .rz) 5 none none none (.float (-5/2)) (.float (1/4)) =
    .ok (some [1/4, 1/4, 1/4, 1/4, 1/4, -9/4, -9/4, 1/4, 1/4, 1/4, -9/4, -9/4, 1/4, 1/4, 1/4, 1/4, 1/4, 1/4, 1/4, 1/4]) := by
  decide +kernel
example : roundtrip [0, 1, 1, 0, 1] .rz 5 (-5/2) (1/4) 1 = .ok [0, 1, 1, 0, 1] := by decide +kernel
example : roundtrip [0, 1, 1, 0, 1] .rz 5 (-5/2) (1/4) 2 = .ok [0, 0, 0, 0, 0] := by decide +kernel  -- outside the pulse
example : sampler [0, 1, 2, 3, 4, 5, 6] (some [0, 10, 20, 30, 40, 50, 60]) 1 3 = .ok ([1, 4], some [10, 40]) := by
  decide +kernel
example : validate true (some .gauss) 8 none (some (.int 0)) none (.int 1) (.int 0) = .error .ValueError := by
  decide +kernel
example : validate true (some .gauss) 8 none none (some (.int 17)) (.int 1) (.int 0) = .error .ValueError := by
  decide +kernel
example : validate true (some .gauss) 8 none none (some (.int 16)) (.int 1) (.int 0) = .ok (some 1, some 0) := by
  decide +kernel
example : validate true (some .nrz) 8 none none none (.int 48) (.int 0) = .error .ValueError := by decide +kernel

end OptiVerif.Props.C05
