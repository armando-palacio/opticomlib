/-
C17 — the eye estimator GET_EYE recovers the levels of a clean two-level signal in any unit.
Theorems about `Model/Eye.lean` at ℝ: everything deterministic around the library calls (sg.resample, sk.KMeans,
gaussian_kde — parameters spied from the run — and shortest_int, modelled by C18).  The driver runs the same definitions at
Float against GET_EYE().  Accuracy clauses and the equivariance of the clustering itself are checked against the running code only, not proved.
-/
import OptiVerif.Lemmas.Eye
import OptiVerif.Lemmas.Guard
import OptiVerif.Lemmas.Shift
import OptiVerif.Gen.Eye

namespace OptiVerif.Props.C17
open OptiVerif.Eye OptiVerif.NumList

theorem constants_documented :
    Gen.Eye.quarter = 1 / 4 ∧ Gen.Eye.spanFrac = 1 / 20 ∧ Gen.Eye.thrPoints = 500 ∧ Gen.Eye.percent = 50 ∧
    Gen.Eye.eyeSigmas = 3 ∧ Gen.Eye.tLeftDefault = -1 / 2 ∧ Gen.Eye.tRightDefault = 1 / 2 ∧ Gen.Eye.tOptDefault = 0 ∧
    Gen.Eye.nClusters = 2 ∧ Gen.Eye.nInit = 10 := by
  refine ⟨?_, ?_, ?_, ?_, ?_, ?_, ?_, ?_, ?_, ?_⟩ <;> decide +kernel

/-- the model's `quarter`, `p05` and default instants are the translated constants (`eyeSigmas` is the literal 3 in the
    model, the number of threshold points the length of the pdf) -/
theorem model_uses_source_constants :
    (quarter : ℝ) = ((Gen.Eye.quarter : ℚ) : ℝ) ∧ (p05 : ℝ) = ((Gen.Eye.spanFrac : ℚ) : ℝ) ∧
    timing ([] : List ℝ) none = ⟨((Gen.Eye.tLeftDefault : ℚ) : ℝ), ((Gen.Eye.tRightDefault : ℚ) : ℝ), ((Gen.Eye.tOptDefault : ℚ) : ℝ)⟩ := by
  refine ⟨?_, ?_, ?_⟩
  · norm_num [quarter, Gen.Eye.quarter]
  · norm_num [p05, Gen.Eye.spanFrac]
  · norm_num [timing, Gen.Eye.tLeftDefault, Gen.Eye.tRightDefault, Gen.Eye.tOptDefault]

theorem post_ok (nslots sps : ℕ) (spsR : Option ℕ) (top bot : ℝ × ℝ) (centres : Option ((ℝ × ℝ) × (ℝ × ℝ)))
    (pdf : Option (List ℝ)) (y : List ℝ) (o : Out ℝ) (h : post nslots sps spsR top bot centres pdf y = .ok o) :
    let lv := levels top bot
    let tm := timing (grid (spsR.getD sps)) centres
    let t : List ℝ := tAxis nslots (spsR.getD sps)
    topSamples lv tm t y ≠ [] ∧ botSamples lv tm t y ≠ [] ∧
    o.mu1 = mean (topSamples lv tm t y) ∧ o.s1 = std (topSamples lv tm t y) ∧
    o.mu0 = mean (botSamples lv tm t y) ∧ o.s0 = std (botSamples lv tm t y) ∧
    o.tLeft = tm.tLeft ∧ o.tRight = tm.tRight ∧ o.tOpt = tm.tOpt ∧
    o.i = sampIndex sps spsR (argNearest t tm.tOpt) ∧ o.thr = pdf.map (threshold o.mu0 o.mu1) := by
  simp only [post] at h
  obtain ⟨hc, h⟩ := ite_error_eq_ok.mp h
  simp only [Bool.or_eq_true, List.isEmpty_iff, not_or] at hc
  cases h
  exact ⟨hc.1, hc.2, rfl, rfl, rfl, rfl, rfl, rfl, rfl, rfl, rfl⟩

/-- all samples of a window (any size ≥ 1) within ε of a level ⇒ |μ − level| ≤ ε and s ≤ ε -/
theorem window_mean_bound (level ε : ℝ) (xs : List ℝ) (hne : xs ≠ []) (h : ∀ x ∈ xs, |x - level| ≤ ε) :
    |mean xs - level| ≤ ε ∧ std xs ≤ ε := by
  have hε : 0 ≤ ε := by
    obtain ⟨x, hx⟩ := List.exists_mem_of_ne_nil xs hne
    exact (abs_nonneg _).trans (h x hx)
  refine ⟨abs_le.mpr ⟨?_, ?_⟩, ?_⟩
  · exact le_sub_iff_add_le'.mpr (le_mean _ xs hne fun x hx => by linarith only [(abs_le.mp (h x hx)).1])
  · exact sub_le_iff_le_add'.mpr (mean_le _ xs hne fun x hx => by linarith only [(abs_le.mp (h x hx)).2])
  · have hsq : mean (xs.map (fun x => (x - level) * (x - level))) ≤ ε * ε :=
      mean_le _ _ (by simpa using hne) fun y hy => by
        obtain ⟨x, hx, rfl⟩ := List.mem_map.mp hy
        exact abs_mul_abs_self (x - level) ▸ mul_self_le_mul_self (abs_nonneg _) (h x hx)
    have hv : var xs ≤ ε * ε := by linarith only [var_add_sq level xs hne, hsq, mul_self_nonneg (mean xs - level)]
    simp only [std, Transc.sqrt_real]
    exact (Real.sqrt_le_sqrt hv).trans_eq (Real.sqrt_mul_self hε)

/-- `window_mean_bound` on what GET_EYE returns: if every sample of the central window above (below) the mid level is within ε of
    b (of a), then |mu1 − b| ≤ ε, s1 ≤ ε, |mu0 − a| ≤ ε, s0 ≤ ε -/
theorem levels_recovered (nslots sps : ℕ) (spsR : Option ℕ) (top bot : ℝ × ℝ) (centres : Option ((ℝ × ℝ) × (ℝ × ℝ)))
    (pdf : Option (List ℝ)) (y : List ℝ) (o : Out ℝ) (h : post nslots sps spsR top bot centres pdf y = .ok o)
    (a b ε : ℝ)
    (htop : ∀ v ∈ topSamples (levels top bot) (timing (grid (spsR.getD sps)) centres) (tAxis nslots (spsR.getD sps)) y, |v - b| ≤ ε)
    (hbot : ∀ v ∈ botSamples (levels top bot) (timing (grid (spsR.getD sps)) centres) (tAxis nslots (spsR.getD sps)) y, |v - a| ≤ ε) :
    |o.mu1 - b| ≤ ε ∧ o.s1 ≤ ε ∧ |o.mu0 - a| ≤ ε ∧ o.s0 ≤ ε := by
  obtain ⟨h1, h2, e1, e2, e3, e4, -⟩ := post_ok _ _ _ _ _ _ _ _ o h
  rw [e1, e2, e3, e4]
  exact ⟨(window_mean_bound b ε _ h1 htop).1, (window_mean_bound b ε _ h1 htop).2, window_mean_bound a ε _ h2 hbot⟩

/-- the two estimated levels are always separated by the mid level: mu0 < y_center < mu1 (whenever both windows are
    non-empty, i.e. whenever `post` succeeds) -/
theorem mu0_lt_mu1 (nslots sps : ℕ) (spsR : Option ℕ) (top bot : ℝ × ℝ) (centres : Option ((ℝ × ℝ) × (ℝ × ℝ)))
    (pdf : Option (List ℝ)) (y : List ℝ) (o : Out ℝ) (h : post nslots sps spsR top bot centres pdf y = .ok o) :
    o.mu0 < (levels top bot).yCenter ∧ (levels top bot).yCenter < o.mu1 ∧ o.mu0 < o.mu1 := by
  obtain ⟨h1, h2, e1, -, e3, -⟩ := post_ok _ _ _ _ _ _ _ _ o h
  have hb := mean_lt _ _ h2 (fun v hv => mem_botSamples _ _ _ _ v hv)
  have ht := mean_gt _ _ h1 (fun v hv => mem_topSamples _ _ _ _ v hv)
  rw [e1, e3]
  exact ⟨hb, ht, hb.trans ht⟩

/-- the threshold is one of the `linspace(mu0, mu1, ·)` points, hence mu0 ≤ threshold ≤ mu1 -/
theorem threshold_between_levels (nslots sps : ℕ) (spsR : Option ℕ) (top bot : ℝ × ℝ)
    (centres : Option ((ℝ × ℝ) × (ℝ × ℝ))) (p : List ℝ) (hp : p ≠ []) (y : List ℝ) (o : Out ℝ)
    (h : post nslots sps spsR top bot centres (some p) y = .ok o) :
    ∃ thr, o.thr = some thr ∧ o.mu0 ≤ thr ∧ thr ≤ o.mu1 := by
  have hlt := (mu0_lt_mu1 _ _ _ _ _ _ _ _ o h).2.2
  obtain ⟨-, -, -, -, -, -, -, -, -, -, e⟩ := post_ok _ _ _ _ _ _ _ _ o h
  refine ⟨threshold o.mu0 o.mu1 p, by simpa using e, ?_⟩
  exact threshold_between o.mu0 o.mu1 hlt.le p hp

/-- how the outputs must transform under y ↦ αy + β -/
def outAff (α β : ℝ) (o : Out ℝ) : Out ℝ :=
  { o with state0 := aff α β o.state0, state1 := aff α β o.state1, mu0 := aff α β o.mu0, mu1 := aff α β o.mu1,
           s0 := α * o.s0, s1 := α * o.s1, thr := o.thr.map (aff α β), eyeH := α * o.eyeH }

/-- the rows handed to the second KMeans (time, amplitude normalised to the eye amplitude) are literally identical for
    y and αy + β: a deterministic clustering therefore returns identical centres — the hypothesis of `affine_equivariance` -/
theorem kmeans_input_invariant {α : ℝ} (hα : 0 < α) (β : ℝ) (top bot : ℝ × ℝ) (t y : List ℝ) :
    tyPoints (levels (affPair α β top) (affPair α β bot)) t (y.map (aff α β)) = tyPoints (levels top bot) t y := by
  simp only [tyPoints, levels_aff]
  rw [filter_zip_map (aff α β) (fun p => between (levels top bot).v25 (levels top bot).v75 p.2) _
    (fun q => by simp only [between, lt_aff hα]), List.map_map]
  refine List.map_congr_left fun q _ => ?_
  simp only [Function.comp, Prod.map, id, aff, add_sub_add_right_eq_sub, ← mul_sub, mul_div_mul_left _ _ hα.ne']

/-- a pdf that is rescaled by a positive factor (what a change of units does to a density) keeps its argmin -/
theorem pdf_argmin_invariant (c : ℝ) (hc : 0 < c) (pdf : List ℝ) : argmin (pdf.map (fun x => c * x)) = argmin pdf :=
  argmin_map (strictMono_mul_left_of_pos hc) pdf

/-- scaling the waveform by α > 0 and offsetting it by β — with the two shortest intervals mapped likewise (C18), the same
    cluster centres and a pdf with the same length and argmin — maps (state0, state1, mu0, mu1, threshold) to α·+β, scales
    (s0, s1, eye_h) by α and leaves t_left, t_right, t_opt, t_dist, the window and the sampling index unchanged; the error
    branch (an empty window) is preserved -/
theorem affine_equivariance {α : ℝ} (hα : 0 < α) (β : ℝ) (nslots sps : ℕ) (spsR : Option ℕ) (top bot : ℝ × ℝ)
    (centres : Option ((ℝ × ℝ) × (ℝ × ℝ))) (pdf pdf' : Option (List ℝ)) (y : List ℝ)
    (hpdf : ∀ p, pdf = some p → p ≠ [])
    (hrel : pdf'.map (fun p => (p.length, argmin p)) = pdf.map (fun p => (p.length, argmin p))) :
    post nslots sps spsR (affPair α β top) (affPair α β bot) centres pdf' (y.map (aff α β))
      = (post nslots sps spsR top bot centres pdf y).map (outAff α β) := by
  simp only [post, topSamples_aff hα, botSamples_aff hα, List.isEmpty_map]
  set tops := topSamples (levels top bot) (timing (grid (spsR.getD sps)) centres) (tAxis nslots (spsR.getD sps)) y
  set bots := botSamples (levels top bot) (timing (grid (spsR.getD sps)) centres) (tAxis nslots (spsR.getD sps)) y
  split_ifs with hc
  · rfl
  · change Except.ok _ = Except.ok (outAff α β _)
    simp only [Bool.or_eq_true, List.isEmpty_iff, not_or] at hc
    obtain ⟨h1, h2⟩ := hc
    have hm1 : mean (tops.map (aff α β)) = aff α β (mean tops) := mean_affine α β tops h1
    have hm0 : mean (bots.map (aff α β)) = aff α β (mean bots) := mean_affine α β bots h2
    have hs1 : std (tops.map (aff α β)) = α * std tops := std_affine α β hα.le tops h1
    have hs0 : std (bots.map (aff α β)) = α * std bots := std_affine α β hα.le bots h2
    simp only [hm1, hm0, hs1, hs0, levels_aff, outAff, Except.ok.injEq, Out.mk.injEq, true_and]
    refine ⟨?_, ?_⟩
    · rcases pdf with _ | p <;> rcases pdf' with _ | p' <;>
        simp only [Option.map_some, Option.map_none, Option.some.injEq, Prod.mk.injEq, reduceCtorEq] at hrel ⊢
      exact threshold_aff α β _ _ p p' (hpdf p rfl) hrel.1 hrel.2
    · simp only [aff]; ring

/-- the snapped instants are grid points -/
theorem timing_on_grid (s : ℕ) (hs : 1 ≤ s) (c : (ℝ × ℝ) × (ℝ × ℝ)) :
    (timing (grid s) (some c)).tLeft ∈ (grid s : List ℝ) ∧ (timing (grid s) (some c)).tRight ∈ (grid s : List ℝ) ∧
    (timing (grid s) (some c)).tOpt ∈ (grid s : List ℝ) := by
  rw [timing_some]
  exact ⟨findNearest_mem _ (grid_ne_nil s hs) _, findNearest_mem _ (grid_ne_nil s hs) _,
    findNearest_mem _ (grid_ne_nil s hs) _⟩

/-- `t_opt` is a grid point nearest to the mean of the two crossing-time centres -/
theorem t_opt_nearest_midpoint (s : ℕ) (hs : 1 ≤ s) (c : (ℝ × ℝ) × (ℝ × ℝ)) :
    ∀ l ∈ (grid s : List ℝ), |(timing (grid s) (some c)).tOpt - (c.1.1 + c.2.1) / 2| ≤ |l - (c.1.1 + c.2.1) / 2| := by
  rw [timing_some]
  exact findNearest_nearest _ (grid_ne_nil s hs) _

/-- the optimum instant is midway between the crossings up to the snapping: if both crossing-time centres lie in the span
    of the grid, |t_opt − (t_left + t_right)/2| ≤ one grid step 1/s (each snapping moves by at most half a step) -/
theorem t_opt_midway (s : ℕ) (hs : 1 ≤ s) (c : (ℝ × ℝ) × (ℝ × ℝ))
    (h1 : -1 ≤ c.1.1 ∧ c.1.1 ≤ 1 - 1 / (s : ℝ)) (h2 : -1 ≤ c.2.1 ∧ c.2.1 ≤ 1 - 1 / (s : ℝ)) :
    |(timing (grid s) (some c)).tOpt - ((timing (grid s) (some c)).tLeft + (timing (grid s) (some c)).tRight) / 2|
      ≤ 1 / (s : ℝ) := by
  rw [timing_some, ← min_add_max c.1.1 c.2.1,
    show 1 / (s : ℝ) = 2 * (1 / (2 * (s : ℝ))) by rw [one_div, one_div, mul_inv]; ring]
  have hlo : -1 ≤ min c.1.1 c.2.1 := le_min h1.1 h2.1
  have hhi : max c.1.1 c.2.1 ≤ 1 - 1 / (s : ℝ) := max_le h1.2 h2.2
  have hlh : min c.1.1 c.2.1 ≤ max c.1.1 c.2.1 := min_le_max
  exact abs_sub_midpoint_le (findNearest_close s hs _ hlo (hlh.trans hhi)) (findNearest_close s hs _ (hlo.trans hlh) hhi)
    (findNearest_close s hs _ (by linarith only [hlo, hlh]) (by linarith only [hhi, hlh]))

/-- with resampling to `r` samples per slot: if `t_opt` is the k-th point of the two-slot grid with
    `r/2 ≤ k + 1 < r + r/2`, `/` on ℕ (for even `r`: −½ − 1/r ≤ t_opt < ½ − 1/r, the central slot), the sampling index
    is an integer in [0, sps) -/
theorem index_in_range (nslots sps r : ℕ) (hr : 1 ≤ r) (hsps : 0 < sps) (hn : 2 ≤ nslots) (k : ℕ) (hk : k < 2 * r)
    (h1 : r / 2 ≤ k + 1) (h2 : k + 1 < r + r / 2) :
    let tOpt : ℝ := (grid r : List ℝ).getD k 0
    tOpt = -1 + (k : ℝ) / r ∧
    0 ≤ sampIndex sps (some r) (argNearest (tAxis nslots r) tOpt) ∧
    sampIndex sps (some r) (argNearest (tAxis nslots r) tOpt) < sps := by
  intro tOpt
  have := sampIndex_range_some sps r k h1 h2
  refine ⟨grid_getD r hr k hk, ?_, ?_⟩
  · simp only [tOpt, argNearest_grid nslots r hr hn k hk]; exact this.1
  · simp only [tOpt, argNearest_grid nslots r hr hn k hk]; exact this.2 hsps

/-- the same when GET_EYE does not resample (`sps_resamp=None`): the grid has `sps` points per slot -/
theorem index_in_range_noresample (nslots sps : ℕ) (hsps : 1 ≤ sps) (hn : 2 ≤ nslots) (k : ℕ) (hk : k < 2 * sps)
    (h1 : sps / 2 ≤ k + 1) (h2 : k + 1 < sps + sps / 2) :
    0 ≤ sampIndex sps none (argNearest (tAxis nslots sps) ((grid sps : List ℝ).getD k 0)) ∧
    sampIndex sps none (argNearest (tAxis nslots sps) ((grid sps : List ℝ).getD k 0)) < sps := by
  rw [sampIndex_none sps hsps]
  exact (index_in_range nslots sps sps hsps hsps hn k hk h1 h2).2

/-- the default instant of the error branch, t_opt = 0, is the `r`-th grid point, and for r ≥ 4 its sampling index
    lies in [0, sps) -/
theorem index_default_in_range (nslots sps r : ℕ) (hr : 4 ≤ r) (hsps : 0 < sps) (hn : 2 ≤ nslots) :
    (grid r : List ℝ).getD r 0 = 0 ∧
    0 ≤ sampIndex sps (some r) (argNearest (tAxis nslots r) ((grid r : List ℝ).getD r 0)) ∧
    sampIndex sps (some r) (argNearest (tAxis nslots r) ((grid r : List ℝ).getD r 0)) < sps := by
  obtain ⟨e, h1, h2⟩ := index_in_range nslots sps r (by omega) hsps hn r (by omega) (by omega) (by omega)
  refine ⟨?_, h1, h2⟩
  have : (r : ℝ) ≠ 0 := by positivity
  rw [e, div_self this, neg_add_cancel]

/-- the slot count fits the record and the rolled record has exactly nslots·sps samples -/
theorem pre_shape {α} (len sps nslotsArg : ℕ) (xs : List α) (hlen : xs.length = len) :
    nslotsOf len sps nslotsArg * sps ≤ len ∧
    (preRoll sps (nslotsOf len sps nslotsArg) xs).length = nslotsOf len sps nslotsArg * sps := by
  have h1 : nslotsOf len sps nslotsArg * sps ≤ len := by
    simp only [nslotsOf]
    calc min ((len - len % (2 * sps)) / sps) nslotsArg * sps ≤ (len - len % (2 * sps)) / sps * sps :=
          Nat.mul_le_mul_right _ (Nat.min_le_left _ _)
      _ ≤ len - len % (2 * sps) := Nat.div_mul_le_self _ _
      _ ≤ len := Nat.sub_le _ _
  refine ⟨h1, ?_⟩
  simp only [preRoll, Fourier.length_rot, List.length_take, hlen]
  omega

/-- a window satisfying the hypothesis of `window_mean_bound` -/
example : |mean ([0.9, 1.1, 1.0] : List ℝ) - 1| ≤ 0.1 ∧ std ([0.9, 1.1, 1.0] : List ℝ) ≤ 0.1 :=
  window_mean_bound 1 0.1 _ (by simp) (by
    intro x hx
    simp only [List.mem_cons, List.not_mem_nil, or_false] at hx
    rcases hx with rfl | rfl | rfl <;> rw [abs_le] <;> constructor <;> norm_num)

/-- the hypotheses of `index_in_range` hold for the centre of the eye with the statement's parameters (r = 128, sps = 16) -/
example : 0 ≤ sampIndex 16 (some 128) (argNearest (tAxis 64 128) ((grid 128 : List ℝ).getD 128 0)) ∧
    sampIndex 16 (some 128) (argNearest (tAxis 64 128) ((grid 128 : List ℝ).getD 128 0)) < 16 :=
  (index_in_range 64 16 128 (by norm_num) (by norm_num) (by norm_num) 128 (by norm_num) (by norm_num) (by norm_num)).2

end OptiVerif.Props.C17
