/-
C19 — unit conversions, Q, number formatting and string parsing are self-consistent.

* dB pairs, Q, gaus, rcos: the generic numeric model `Model/Conv.lean` instantiated at `ℝ` (the same definitions the
  driver runs at `Float`).  `scipy.special.erfc` is a parameter; its assumed property is `GaussQ.ErfcSpec`
  (`erfc y = 2·N(0,1)(√2·y, ∞)`).
* dec2bin, si, str2array: exact models (`Model/Dec2bin`, `Model/Si` over the table `Gen/SiLadder.lean` translated from the
  source on every run, `Model/StrArray`).
-/
import OptiVerif.Lemmas.ConvGauss
import OptiVerif.Lemmas.Dec2bin
import OptiVerif.Lemmas.Si
import OptiVerif.Lemmas.StrArray

namespace OptiVerif.Props.C19

theorem idb_db (x : ℝ) (hx : 0 < x) : Conv.idb (Conv.db x) = x := Conv.idb_db x hx
theorem db_idb (y : ℝ) : Conv.db (Conv.idb y) = y := Conv.db_idb y
theorem idbm_dbm (x : ℝ) (hx : 0 < x) : Conv.idbm (Conv.dbm x) = x := Conv.idbm_dbm x hx
theorem dbm_idbm (y : ℝ) : Conv.dbm (Conv.idbm y) = y := Conv.dbm_idbm y
theorem db_mul (x y : ℝ) (hx : 0 < x) (hy : 0 < y) : Conv.db (x * y) = Conv.db x + Conv.db y := Conv.db_mul x y hx hy
theorem dbm_eq_db_add_30 (x : ℝ) (hx : 0 < x) : Conv.dbm x = Conv.db x + 30 := Conv.dbm_eq_db_add_30 x hx
theorem db_negative_iff (x : ℝ) : Conv.dbE x = .error .ValueError ↔ x < 0 := Conv.dbE_error_iff x
theorem dbm_negative_iff (x : ℝ) : Conv.dbmE x = .error .ValueError ↔ x < 0 := Conv.dbmE_error_iff x

/-- `db(x / y) = db(x) − db(y)`: a power ratio is a level difference -/
theorem db_div (x y : ℝ) (hx : 0 < x) (hy : 0 < y) : Conv.db (x / y) = Conv.db x - Conv.db y := by
  simp only [Conv.db_eq]
  rw [Real.logb_div hx.ne' hy.ne', mul_sub]

/-- holds for `x ≤ 0` too, there only through Mathlib's `Real.log x = Real.log |x|` (`utils.db` raises ValueError for `x < 0`) -/
theorem db_pow (x : ℝ) (n : ℕ) : Conv.db ((x ^ n : ℝ)) = (n : ℝ) * (Conv.db x : ℝ) := by
  simp only [Conv.db_eq]
  rw [Real.logb_pow, mul_left_comm]

/-- `idb(a + b) = idb(a) · idb(b)`, `idb(0) = 1`, and `idb` is positive: cascaded gains in dB add -/
theorem idb_add (a b : ℝ) : Conv.idb (a + b) = Conv.idb a * Conv.idb b ∧ Conv.idb (0 : ℝ) = 1 ∧ 0 < Conv.idb a := by
  refine ⟨?_, by simp [Conv.idb_eq], Conv.idb_pos a⟩
  simp only [Conv.idb_eq]
  rw [add_div, Real.rpow_add (by norm_num)]

/-- the dB scale preserves order on positive powers -/
theorem db_strict_mono (x y : ℝ) (hx : 0 < x) (hy : 0 < y) : Conv.db x < Conv.db y ↔ x < y := by
  simp only [Conv.db_eq]
  rw [mul_lt_mul_iff_of_pos_left (by norm_num), Real.logb_lt_logb_iff (by norm_num) hx hy]

theorem idb_strict_mono (a b : ℝ) : Conv.idb a < Conv.idb b ↔ a < b := by
  simp only [Conv.idb_eq]
  rw [Real.rpow_lt_rpow_left_iff (by norm_num), div_lt_div_iff_of_pos_right (by norm_num)]

/-- `dbm` and `idbm` are `db` / `idb` shifted by 30 dB (1 W = 30 dBm): `idbm(y) = idb(y − 30)` -/
theorem idbm_eq_idb_sub_30 (y : ℝ) : Conv.idbm y = Conv.idb (y - 30) := by
  rw [Conv.idbm_eq, Conv.idb_eq, Conv.idb_eq, sub_div, Real.rpow_sub (by norm_num)]
  norm_num

/-- the model's `10**y` is the real power function -/
theorem idb_is_power (y : ℝ) : Conv.idb y = (10 : ℝ) ^ (y / 10) := Conv.idb_eq y
example : Conv.idb (Conv.db (2 : ℝ)) = 2 := idb_db 2 (by norm_num)

/-- the model's Q is the upper tail of the standard normal law -/
theorem Q_is_gaussian_tail (erfc : ℝ → ℝ) (h : GaussQ.ErfcSpec erfc) (x : ℝ) :
    Conv.Q erfc x = ((ProbabilityTheory.gaussianReal 0 1) (Set.Ioi x)).toReal := Conv.Q_eq_gQ erfc h x
theorem Q_symm (erfc : ℝ → ℝ) (h : GaussQ.ErfcSpec erfc) (x : ℝ) : Conv.Q erfc x + Conv.Q erfc (-x) = 1 :=
  (Conv.Q_spec erfc h).symm x
theorem Q_zero (erfc : ℝ → ℝ) (h : GaussQ.ErfcSpec erfc) : Conv.Q erfc 0 = 1 / 2 := (Conv.Q_spec erfc h).zero
theorem Q_antitone (erfc : ℝ → ℝ) (h : GaussQ.ErfcSpec erfc) : Antitone (Conv.Q erfc) := (Conv.Q_spec erfc h).anti
theorem Q_range (erfc : ℝ → ℝ) (h : GaussQ.ErfcSpec erfc) (x : ℝ) : 0 ≤ Conv.Q erfc x ∧ Conv.Q erfc x ≤ 1 :=
  ⟨(Conv.Q_spec erfc h).nonneg x, (Conv.Q_spec erfc h).le_one x⟩
/-- `ErfcSpec` is satisfiable: its own right-hand side is an `erfc` -/
example : ∃ erfc, GaussQ.ErfcSpec erfc := ⟨GaussQ.erfcRef, GaussQ.erfcRef_spec⟩

theorem gaus_integral_one (mu std : ℝ) (hs : 0 < std) : ∫ x, Conv.gaus x mu std = 1 := by
  simp only [Conv.gaus_eq_pdf _ mu std hs]
  exact ProbabilityTheory.integral_gaussianPDFReal_eq_one _ (Real.toNNReal_pos.mpr (by positivity)).ne'
theorem gaus_is_gaussian_pdf (x mu std : ℝ) (hs : 0 < std) :
    Conv.gaus x mu std = ProbabilityTheory.gaussianPDFReal mu (Real.toNNReal (std ^ 2)) x := Conv.gaus_eq_pdf x mu std hs

/-- `rcos` stays in [0, 1], for all arguments of the model over ℝ (also `T = 0` or `alpha = 0`, where the value is
    decided by `x / 0 = 0` and Python's scalar branch divides by zero) -/
theorem rcos_range (x alpha T : ℝ) : 0 ≤ Conv.rcos x alpha T ∧ Conv.rcos x alpha T ≤ 1 := Conv.rcos_range x alpha T
theorem rcos_even (x alpha T : ℝ) : Conv.rcos (-x) alpha T = Conv.rcos x alpha T := Conv.rcos_even x alpha T
theorem rcos_half (alpha T : ℝ) (ha : 0 < alpha) (hT : 0 < T) : Conv.rcos (1 / (2 * T)) alpha T = 1 / 2 :=
  Conv.rcos_half alpha T ha hT
theorem rcos_zero_beyond (x alpha T : ℝ) (ha : 0 ≤ alpha) (hT : 0 < T) (hx : (1 + alpha) / (2 * T) < |x|) :
    Conv.rcos x alpha T = 0 := Conv.rcos_zero_beyond x alpha T ha hT hx
theorem rcos_one_inside (x alpha T : ℝ) (hx : |x| ≤ (1 - alpha) / (2 * T)) : Conv.rcos x alpha T = 1 := by
  rw [Conv.rcos_real, if_pos hx]
example : Conv.rcos (1 / (2 * 1)) (1/2 : ℝ) 1 = 1 / 2 := rcos_half _ _ (by norm_num) (by norm_num)

section
open OptiVerif.Dec2bin

/-- accepted inputs: the result is the `d`-digit big-endian expansion of `v` -/
theorem dec2bin_ok (v d : Nat) (h : v < 2 ^ d) : dec2bin (v : Int) (d : Int) = .ok (bitsBE d v) := by
  unfold dec2bin
  exact dec2binFuel_ok v d _ h (by simp)

theorem dec2bin_spec (v d : Nat) (h : v < 2 ^ d) :
    ∃ bits, dec2bin (v : Int) (d : Int) = .ok bits ∧ bits.length = d ∧
      (∀ i (hi : i < bits.length), bits[i] = (v / 2 ^ (d - 1 - i)) % 2) ∧
      weightedSum bits = v ∧ valBE bits = v := by
  refine ⟨bitsBE d v, dec2bin_ok v d h, bitsBE_length d v, ?_, ?_, ?_⟩
  · intro i hi
    exact bitsBE_getElem d v i (by simpa using hi)
  · rw [← valBE_eq_weightedSum, valBE_bitsBE, Nat.mod_eq_of_lt h]
  · rw [valBE_bitsBE, Nat.mod_eq_of_lt h]

/-- error iff the number does not fit -/
theorem dec2bin_error_iff (v : Int) (d : Nat) :
    dec2bin v (d : Int) = .error .ValueError ↔ v ≥ 2 ^ d := by
  rw [dec2bin_eq, ite_error_iff]
  omega

theorem dec2bin_negative_digits (v d : Int) (h : d < 0) : dec2bin v d = .error .ValueError := by
  unfold dec2bin dec2binFuel; rw [if_pos h]

set_option linter.unusedVariables false in
/-- the `while` loop ends within `digits` rounds: more fuel changes nothing -/
theorem dec2bin_terminates (v d fuel : Nat) (h : v < 2 ^ d) (hf : d ≤ fuel) :
    dec2binFuel fuel (v : Int) (d : Int) = dec2bin (v : Int) (d : Int) :=
  dec2binFuel_eq_dec2bin _ d fuel hf

/-- non-positive numbers skip the loop: all zeros (outside the property's quantifier, but it is what the code does) -/
theorem dec2bin_nonpos (v : Int) (d : Nat) (h : v ≤ 0) : dec2bin v (d : Int) = .ok (List.replicate d 0) := by
  have hd : (0 : Int) < 2 ^ d := by positivity
  rw [dec2bin_eq, if_neg (by omega), Int.toNat_of_nonpos h, loop_zero]

example : dec2bin 5 4 = .ok [0, 1, 0, 1] := by decide
example : dec2bin 16 4 = .error .ValueError := by decide

end

/-- the if-ladder found in the source is the documented one (T G M k – m μ n p f, decades 1e12 … 1e-15) -/
theorem si_table_documented : Gen.SiLadder.rows = Si.documented ∧ Gen.SiLadder.zeroCase = true :=
  ⟨Si.rows_documented, Si.zeroCase_documented⟩

/-- every row's scale factor is the inverse of the SI prefix it prints -/
theorem si_scale_times_prefix (r : Si.Row) (hr : r ∈ Gen.SiLadder.rows) :
    ∃ v, Si.prefixValue r.2.2.2 = some v ∧ r.2.2.1 * v = 1 := by
  rw [Si.rows_documented] at hr
  exact (Si.documented_rowOk r hr).scale

/-- the rows tile [1e-15, ∞): exactly one row's test succeeds, and `si` uses that row -/
theorem si_rows_tile (x : Rat) (hx : 1/(10:Rat)^15 ≤ x) :
    ∃ r ∈ Gen.SiLadder.rows, Si.hits r x = true ∧ (∀ r' ∈ Gen.SiLadder.rows, Si.hits r' x = true → r' = r) ∧
      Si.si x = .row r.2.2.2 (x * r.2.2.1) := by
  rw [Si.rows_documented]
  exact Si.si_hit x hx

/-- for x ≥ 1e-15 the output is a mantissa and an SI prefix whose value times the mantissa is x;
    the mantissa is in [1,1000) below 1e15 -/
theorem si_ladder_ok (x : Rat) (hx : 1/(10:Rat)^15 ≤ x) :
    ∃ p m v, Si.si x = .row p m ∧ Si.prefixValue p = some v ∧ m * v = x ∧
      (x < (10:Rat)^15 → 1 ≤ m ∧ m < 1000) := by
  obtain ⟨r, hr, hh, -, hs⟩ := Si.si_hit x hx
  obtain ⟨v, hp, hm, hrange⟩ := (Si.documented_rowOk r hr).good hh
  exact ⟨_, _, v, hs, hp, hm, hrange⟩

/-- above 1e15 the tera row is used with a mantissa ≥ 1000 -/
theorem si_above_range (x : Rat) (hx : (10:Rat)^15 ≤ x) :
    Si.si x = .row [84] (x * (1/(10:Rat)^12)) ∧ 1000 ≤ x * (1/(10:Rat)^12) := by
  have h12 : (10:Rat)^12 ≤ x := le_trans (by norm_num) hx
  constructor
  · rw [Si.si_eq]
    exact Si.siRows_cons_hit ((Si.hits_iff _ _).mpr ⟨h12, by simp⟩)
  · rw [mul_one_div, le_div_iff₀ (by positivity)]
    exact le_trans (by norm_num) hx

theorem si_zero : Si.si 0 = .zero := by
  rw [Si.si_eq, Si.documented_tiles.below (by norm_num)]
  rfl

/-- below 1e-15 (and not 0) the function falls off the ladder and returns None -/
theorem si_below_range (x : Rat) (hx : x < 1/(10:Rat)^15) (h0 : x ≠ 0) : Si.si x = .none := by
  rw [Si.si_eq, Si.documented_tiles.below hx]
  simp [h0]

/-- non-vacuity: `si(2.5e12)` is `2.5 T` (the first row of the ladder has no upper bound) -/
example : Si.si (5/2 * 10^12) = .row [84] (5/2) := by decide +kernel
example : Si.si (999949/1000) = .row [] (999949/1000) := by decide +kernel

section
open OptiVerif.StrArray

/-- the four character classes are nested, strictly -/
theorem char_classes_nested (c : Char) :
    (isBoolChar c = true → isIntChar c = true) ∧ (isIntChar c = true → isFloatChar c = true) ∧
    (isFloatChar c = true → isComplexChar c = true) :=
  ⟨isIntChar_of_isBoolChar, isFloatChar_of_isIntChar, isComplexChar_of_isFloatChar⟩

theorem char_classes_strict :
    (isIntChar '2' = true ∧ isBoolChar '2' = false) ∧ (isFloatChar '.' = true ∧ isIntChar '.' = false) ∧
    (isComplexChar 'j' = true ∧ isFloatChar 'j' = false) ∧ (isComplexChar 'i' = true ∧ isFloatChar 'i' = false) := by decide

/-- the inferred type is the least class of the chain bool ⊂ int ⊂ float ⊂ complex that
    contains every character of the (non-empty) text -/
theorem infer_type_lattice (s : List Char) (t : Ty) :
    inferType s = some t ↔
      s ≠ [] ∧
      match t with
      | .bool => ∀ c ∈ s, isBoolChar c = true
      | .int => (∀ c ∈ s, isIntChar c = true) ∧ ¬ ∀ c ∈ s, isBoolChar c = true
      | .float => (∀ c ∈ s, isFloatChar c = true) ∧ ¬ ∀ c ∈ s, isIntChar c = true
      | .complex => (∀ c ∈ s, isComplexChar c = true) ∧ ¬ ∀ c ∈ s, isFloatChar c = true :=
  inferType_some_iff s t

/-- any other character (or an empty text) ⇒ ValueError, whatever the dtype -/
theorem str2array_foreign_char (s : List Char) (d : Option Ty) (h : s = [] ∨ ∃ c ∈ s, isComplexChar c = false) :
    str2array s d = .error .ValueError :=
  str2array_of_none ((inferType_none_iff s).mpr h) d

/-- an explicit dtype is honoured: the result carries that dtype -/
theorem str2array_dtype_honoured (s : List Char) (d : Ty) (a : Arr) (h : str2array s (some d) = .ok a) : a.ty = d := by
  obtain ⟨_, h⟩ := str2array_some_is_astype h
  exact astype_ty h

/-- a text made only of the digits 0 and 1 (blanks, commas, `;`) is read digit by digit
    when no numeric dtype is given; rows of unequal length are refused -/
theorem str2array_bit_pattern (s : List Char) (hne : s ≠ []) (hs : IsBitText s) (d : Option Ty) (hd : d = none ∨ d = some .bool) :
    str2array s d =
      if rect (bitPieces s) then .ok (mkArr .bool ((bitPieces s).map (fun p => p.map bitVal)))
      else .error .ValueError := by
  have hi := (inferType_some_iff s .bool).mpr ⟨hne, hs.isBoolChar⟩
  have hp := parseBits_spec s hs
  rcases hd with rfl | rfl
  · rw [(str2array_of_bool hi).1, hp]
  · rw [(str2array_of_bool hi).2, hp]
    split_ifs with hr
    · exact astype_mkArr fun _ _ c _ => castEntry_bool_bitVal c
    · rfl

/-- one-dimensional instance: `'1 0 1 10'` is read as five bits -/
example : str2array "1 0 1 10".toList none =
    .ok ⟨.bool, none, 5, [(1,0),(0,0),(1,0),(1,0),(0,0)]⟩ := by decide +kernel

/-- with `dtype=int`: the fixed-point text of any int64 array — one row or several rows of equal
    length, elements separated by any run of commas/blanks, rows by `;` with optional blanks — is read back exactly. -/
theorem parse_render_int (sep pre post : List Char) (hsep : IsElemSep sep) (hpre : IsBlank pre) (hpost : IsBlank post)
    (rows : List (List Int)) (hne : rows ≠ []) (hrows : ∀ r ∈ rows, r ≠ []) (hrect : Rect rows)
    (hrange : ∀ r ∈ rows, ∀ n ∈ r, InRange n) :
    str2array (renderRows sep pre post rows) (some .int) = .ok (mkArr .int (rows.map (fun r => r.map intEntry))) := by
  obtain ⟨hnil, hchars⟩ := renderRows_chars hsep hpre hpost hne hrows
  rw [str2array_int_dtype _ hnil hchars, parseNumeric_render hsep hpre hpost hne hrows hrect hrange]
  exact astype_mkArr fun r hr n hn => castEntry_int_intEntry n (hrange r hr n hn)

/-- the same without dtype, as soon as the text is not a pure 0/1 pattern -/
theorem parse_render_int_inferred (sep pre post : List Char) (hsep : IsElemSep sep) (hpre : IsBlank pre) (hpost : IsBlank post)
    (rows : List (List Int)) (hne : rows ≠ []) (hrows : ∀ r ∈ rows, r ≠ []) (hrect : Rect rows)
    (hrange : ∀ r ∈ rows, ∀ n ∈ r, InRange n)
    (hnb : ∃ c ∈ renderRows sep pre post rows, isBoolChar c = false) :
    str2array (renderRows sep pre post rows) none = .ok (mkArr .int (rows.map (fun r => r.map intEntry))) := by
  obtain ⟨hnil, hchars⟩ := renderRows_chars hsep hpre hpost hne hrows
  obtain ⟨c, hc, hcb⟩ := hnb
  have hi : inferType (renderRows sep pre post rows) = some .int :=
    (inferType_some_iff _ _).mpr ⟨hnil, hchars, fun hall => by rw [hall c hc] at hcb; cases hcb⟩
  rw [str2array_none_of_int _ hi, parseNumeric_render hsep hpre hpost hne hrows hrect hrange]

/-- shapes: one row gives a 1-D array of its length, several rows a 2-D array -/
theorem parse_render_int_shape_1d (r : List Int) :
    mkArr .int ([r].map (fun r => r.map intEntry)) = ⟨.int, none, r.length, r.map intEntry⟩ := by
  simp [mkArr]

theorem parse_render_int_shape_2d (r1 r2 : List Int) (rs : List (List Int)) :
    mkArr .int ((r1 :: r2 :: rs).map (fun r => r.map intEntry)) =
      ⟨.int, some (rs.length + 2), r1.length, ((r1 :: r2 :: rs).map (fun r => r.map intEntry)).flatten⟩ := by
  simp [mkArr]

/-- non-vacuity: `'1 -2 1; 4,5,6'` (a test of the repository) and a pure 0/1 text with `dtype=int` -/
example : str2array "1 -2 1; 4,5,6".toList (some .int) =
    .ok ⟨.int, some 2, 3, [(1,0),(-2,0),(1,0),(4,0),(5,0),(6,0)]⟩ := by decide +kernel
example : str2array "1 0 1 10".toList (some .int) = .ok ⟨.int, none, 4, [(1,0),(0,0),(1,0),(10,0)]⟩ := by
  decide +kernel
example : IsElemSep ", ".toList ∧ IsElemSep " ".toList ∧ IsElemSep ",".toList ∧ IsBlank " ".toList ∧ IsBlank [] := by
  refine ⟨⟨by decide, by decide⟩, ⟨by decide, by decide⟩, ⟨by decide, by decide⟩, ?_, ?_⟩
  · intro c hc; simp at hc; subst hc; decide
  · intro c hc; cases hc
example : renderRows ", ".toList [] " ".toList [[1, -2, 10], [4, 5, 6]] = "1, -2, 10; 4, 5, 6".toList := by
  decide +kernel

end

end OptiVerif.Props.C19
