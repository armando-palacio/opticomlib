/-
C07 — linear propagation: DM is an exact all-pass, FIBER with gamma = 0 an all-pass times exp(-alpha' L/2); both
are additive (in D, in L).
Theorems about `Model/Fiber.lean` at ℝ (the driver runs the same definitions at Float against DM / FIBER).
Constants (4.343, 1e-12, 1e-12**2) are translated from the source into `Gen/FiberConst.lean`.
-/
import OptiVerif.Lemmas.Fiber

namespace OptiVerif.Props.C07
open OptiVerif.Fourier OptiVerif.Fiber

theorem constants_documented :
    Gen.FiberConst.kappa = 4343 / 1000 ∧ Gen.FiberConst.wConv = 1 / 10^12 ∧ Gen.FiberConst.dConv = 1 / 10^24 := by
  refine ⟨rfl, ?_, ?_⟩ <;> decide +kernel

/-- DM's ps² → s² factor is the square of FIBER's rad/s → rad/ps factor -/
theorem units_consistent : Gen.FiberConst.dConv = Gen.FiberConst.wConv * Gen.FiberConst.wConv := by
  decide +kernel

/-- |H(w)| = 1 at every frequency, for every D -/
theorem dm_allpass (dConv : ℝ) (w : List ℝ) (D : ℝ) : ∀ h ∈ dmH dConv w D, h.normSq = 1 :=
  List.forall_mem_map.mpr fun wk _ => normSq_dmResp dConv D wk

theorem dm_length (dConv fs D : ℝ) (xs : List (Cx ℝ)) : (dmRow dConv fs D xs).length = xs.length :=
  length_respRow (dmResp dConv D) fs xs

/-- DM conserves the energy of every row exactly -/
theorem dm_energy (dConv fs D : ℝ) (xs : List (Cx ℝ)) : sumSq (dmRow dConv fs D xs) = sumSq xs := by
  rw [dmRow_eq, sumSq_respRow _ fs 1 (normSq_dmResp dConv D), one_mul]

/-- the response-level twin of `dm_add` -/
theorem dmH_mul (dConv : ℝ) (w : List ℝ) (D1 D2 : ℝ) :
    List.zipWith (· * ·) (dmH dConv w D1) (dmH dConv w D2) = dmH dConv w (D1 + D2) := by
  rw [dmH_eq, dmH_eq, dmH_eq, List.zipWith_map, List.zipWith_self]
  exact List.map_congr_left fun wk _ => dmResp_mul dConv D1 D2 wk

/-- DM(D1) after DM(D2) = DM(D1 + D2) -/
theorem dm_add (dConv fs D1 D2 : ℝ) (xs : List (Cx ℝ)) :
    dmRow dConv fs D1 (dmRow dConv fs D2 xs) = dmRow dConv fs (D1 + D2) xs := by
  rw [dmRow_eq, dmRow_eq, respRow_respRow, dmRow_eq]
  exact respRow_congr fs (fun wk => by rw [dmResp_mul, add_comm]) xs

theorem dm_zero (dConv fs : ℝ) (xs : List (Cx ℝ)) : dmRow dConv fs 0 xs = xs :=
  respRow_one (dmResp dConv 0) fs (dmResp_zero dConv) xs

/-- DM(-D) undoes DM(D) -/
theorem dm_inv (dConv fs D : ℝ) (xs : List (Cx ℝ)) : dmRow dConv fs (-D) (dmRow dConv fs D xs) = xs := by
  rw [dm_add, neg_add_cancel, dm_zero]

/-- `retH` describes the filter actually applied: un-shifting the returned response gives the applied H -/
theorem dm_retH_matches (dConv : ℝ) (n : ℕ) (fs D : ℝ) :
    ifftshift (dmRetH dConv n fs D) = dmH dConv (wAxis n fs) D := by
  simp [dmRetH, Fourier.ifftshift_fftshift]

theorem fiber_length (wConv kappa fs alpha b2 b3 L : ℝ) (xs : List (Cx ℝ)) :
    (fiberLinRow wConv kappa fs alpha b2 b3 L xs).length = xs.length :=
  length_respRow (fiberResp wConv (alpha / kappa) b2 b3 L) fs xs

/-- the energy leaving the fibre is exp(-alpha' L) times the input energy, alpha' = alpha/kappa, in every row
    (dispersion of any order and sign does not change it) -/
theorem fiber_loss (wConv kappa fs alpha b2 b3 L : ℝ) (xs : List (Cx ℝ)) :
    sumSq (fiberLinRow wConv kappa fs alpha b2 b3 L xs) = Real.exp (-(alpha / kappa) * L) * sumSq xs :=
  sumSq_respRow _ fs _ (normSq_fiberResp wConv (alpha / kappa) b2 b3 L) xs

/-- the response-level twin of `fiber_span_add` -/
theorem fiberH_mul (wConv : ℝ) (w : List ℝ) (a b2 b3 L1 L2 : ℝ) :
    List.zipWith (· * ·) (fiberH wConv w a b2 b3 L1) (fiberH wConv w a b2 b3 L2) = fiberH wConv w a b2 b3 (L1 + L2) := by
  rw [fiberH_eq, fiberH_eq, fiberH_eq, List.zipWith_map, List.zipWith_self]
  exact List.map_congr_left fun wk _ => fiberResp_mul wConv a b2 b3 L1 L2 wk

/-- two spans in sequence = one span of the summed length -/
theorem fiber_span_add (wConv kappa fs alpha b2 b3 L1 L2 : ℝ) (xs : List (Cx ℝ)) :
    fiberLinRow wConv kappa fs alpha b2 b3 L2 (fiberLinRow wConv kappa fs alpha b2 b3 L1 xs)
      = fiberLinRow wConv kappa fs alpha b2 b3 (L1 + L2) xs := by
  rw [fiberLinRow_eq, fiberLinRow_eq, respRow_respRow, fiberLinRow_eq]
  exact respRow_congr fs (fiberResp_mul wConv (alpha / kappa) b2 b3 L1 L2) xs

/-- FIBER(L, beta2) with alpha = beta3 = 0 is DM(beta2 · L) — including the unit conversions -/
theorem fiber_eq_dm (wConv dConv kappa fs b2 L : ℝ) (hunits : dConv = wConv * wConv) (xs : List (Cx ℝ)) :
    fiberLinRow wConv kappa fs 0 b2 0 L xs = dmRow dConv fs (b2 * L) xs := by
  subst hunits
  rw [fiberLinRow_eq, dmRow_eq]
  exact respRow_congr fs (fiberResp_eq_dmResp wConv kappa b2 L) xs

/-- with the constants found in the source, FIBER(L, beta2) = DM(beta2 L) -/
theorem fiber_eq_dm_source (kappa fs b2 L : ℝ) (xs : List (Cx ℝ)) :
    fiberLinRow ((Gen.FiberConst.wConv : ℚ) : ℝ) kappa fs 0 b2 0 L xs
      = dmRow ((Gen.FiberConst.dConv : ℚ) : ℝ) fs (b2 * L) xs :=
  fiber_eq_dm _ _ kappa fs b2 L (by rw [units_consistent, Rat.cast_mul]) xs

theorem rows_independent (f : List (Cx ℝ) → List (Cx ℝ)) (rows : List (List (Cx ℝ)))
    (hlen : ∀ r, (f r).length = r.length) :
    (rows.map f).map List.length = rows.map List.length := by
  simp [hlen]

/-- `DM` leaves the noise component exactly as it was (its `fft`/`ifft` round trip is the identity, C02) and keeps its
    presence; every signal row is filtered by the same response -/
theorem dm_container (dConv fs D : ℝ) (p : Payload ℝ) :
    (dmPayload dConv fs D p).noise = p.noise ∧ (dmPayload dConv fs D p).sig = p.sig.map (dmRow dConv fs D) :=
  ⟨by simp [dmPayload, Fourier.idft_dft], rfl⟩

/-- energy conservation lifts to containers: per polarisation -/
theorem dm_container_energy (dConv fs D : ℝ) (p : Payload ℝ) :
    (dmPayload dConv fs D p).sig.map sumSq = p.sig.map sumSq := by
  simp [dmPayload, dm_energy]

/-- invertibility lifts to containers as well -/
theorem dm_container_inv (dConv fs D : ℝ) (p : Payload ℝ) :
    dmPayload dConv fs (-D) (dmPayload dConv fs D p) = p := by
  simp [dmPayload, Function.comp_def, dm_inv, Fourier.idft_dft]

theorem fiber_container (wConv kappa fs alpha b2 b3 L : ℝ) (p : Payload ℝ) :
    (fiberLinPayload wConv kappa fs alpha b2 b3 L p).noise = p.noise ∧
    (fiberLinPayload wConv kappa fs alpha b2 b3 L p).sig.map List.length = p.sig.map List.length := by
  refine ⟨rfl, ?_⟩
  simp [fiberLinPayload, fiber_length]

theorem dm_superposition (dConv fs D : ℝ) (xs ys : List (Cx ℝ)) (h : xs.length = ys.length) :
    dmRow dConv fs D (addRows xs ys) = addRows (dmRow dConv fs D xs) (dmRow dConv fs D ys) :=
  respRow_add (dmResp dConv D) fs xs ys h

theorem fiber_superposition (wConv kappa fs alpha b2 b3 L : ℝ) (xs ys : List (Cx ℝ)) (h : xs.length = ys.length) :
    fiberLinRow wConv kappa fs alpha b2 b3 L (addRows xs ys)
      = addRows (fiberLinRow wConv kappa fs alpha b2 b3 L xs) (fiberLinRow wConv kappa fs alpha b2 b3 L ys) :=
  respRow_add (fiberResp wConv (alpha / kappa) b2 b3 L) fs xs ys h

/-- an unlit polarisation leaves DM identically zero: no NaN, no leakage -/
theorem dm_dark_row (dConv fs D : ℝ) (n : ℕ) : dmRow dConv fs D (zeroRow n) = zeroRow n :=
  respRow_zeroRow (dmResp dConv D) fs n

theorem fiber_dark_row (wConv kappa fs alpha b2 b3 L : ℝ) (n : ℕ) :
    fiberLinRow wConv kappa fs alpha b2 b3 L (zeroRow n) = zeroRow n :=
  respRow_zeroRow (fiberResp wConv (alpha / kappa) b2 b3 L) fs n

example : ∃ xs : List (Cx ℝ), xs.length = 3 ∧ sumSq (dmRow 1 1 5 xs) = sumSq xs :=
  ⟨[⟨1, 0⟩, ⟨0, 2⟩, ⟨-1, 1⟩], rfl, dm_energy _ _ _ _⟩

end OptiVerif.Props.C07
