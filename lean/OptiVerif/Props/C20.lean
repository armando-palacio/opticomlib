/-
C20 — PPG3204 driver emits only in-range commands; pattern memory round-trips; SYNC aligns.

The model (`Model/Ppg.lean`, `Model/PpgSync.lean`) takes every limit, the limit names used at every clamp site and
the `_check_channels` literals from `Gen/PpgLimits.lean`, which the translator regenerates from
`/repo/opticomlib/lab.py` on every run.  The predicates of the statements are defined in the lemma files; `InRange` and
`ChOk` have the *documented* numbers written out literally.

Not modelled (see PARTIAL in harness/props/c20.py): the printf conversions `:.1f`, `:.5e` (only the abstract
nearest-grid statement below), `fftconvolve`'s floating point, the distribution of the noise (the noise results only say
which perturbations leave the alignment unchanged).  Modelled (`Sync.rejects`) but without a theorem on when it accepts:
the `max < 3·std` test; the `sync` results say "index `d`, or `ValueError`".
-/
import OptiVerif.Lemmas.PpgEmit
import OptiVerif.Lemmas.PpgSync
import OptiVerif.Lemmas.PpgKron
import OptiVerif.Lemmas.PpgSyncNoise

namespace OptiVerif.Props.C20
open OptiVerif.Ppg OptiVerif.Sync OptiVerif.Gen.PpgLimits

/-- class constants of `PPG3204` in the source = the numbers of the statement: 4 channels, pattern length 2..2^21,
    amplitude 0.3..2 V, offset -2..3 V, frequency 1.5..32 GHz, skew ±25 ps, PRBS orders, 2^21-bit memory, 1024-bit blocks -/
theorem limits_documented :
    CHANNELS = 4 ∧ PATT_LEN_MIN = 2 ∧ PATT_LEN_MAX = 2 ^ 21 ∧ AMPLITUDE_MIN = 3 / 10 ∧ AMPLITUDE_MAX = 2 ∧
    OFFSET_MIN = -2 ∧ OFFSET_MAX = 3 ∧ FREQ_MIN = 15 * 10 ^ 8 ∧ FREQ_MAX = 32 * 10 ^ 9 ∧
    MIN_SKEW = -(25 / 10 ^ 12) ∧ MAX_SKEW = 25 / 10 ^ 12 ∧ PRBS_ORDERS = [7, 9, 11, 15, 23, 31] ∧
    MAX_MEMORY_LEN = 2 ^ 21 ∧ MAX_CHUNK_LEN = 1024 := by
  refine ⟨rfl, rfl, ?_, rfl, rfl, rfl, rfl, ?_, ?_, ?_, ?_, rfl, rfl, rfl⟩ <;>
    simp only [PATT_LEN_MAX, FREQ_MIN, FREQ_MAX, MIN_SKEW, MAX_SKEW] <;> norm_num

/-- every clamp site of the source tests against and clips to the pair of limits of *its own* quantity, and
    `_check_channels` tests/clips with 1 and CHANNELS and keeps at most CHANNELS entries -/
theorem clamp_sites_documented :
    pattLenTest = (2, 2 ^ 21) ∧ pattLenClip = (2, 2 ^ 21) ∧
    skewTest = (-(25 / 10 ^ 12), 25 / 10 ^ 12) ∧ skewClip = (-(25 / 10 ^ 12), 25 / 10 ^ 12) ∧
    voltTest = (3 / 10, 2) ∧ voltClip = (3 / 10, 2) ∧ offsTest = (-2, 3) ∧ offsClip = (-2, 3) ∧
    freqTest = (15 * 10 ^ 8, 32 * 10 ^ 9) ∧ freqClip = (15 * 10 ^ 8, 32 * 10 ^ 9) ∧
    chTestLo = 1 ∧ chTestHi = 4 ∧ chSizeMax = 4 ∧ chClipLo = 1 ∧ chClipHi = 4 ∧ chTake = 4 :=
  ⟨lim_pattLen.1, lim_pattLen.2, lim_skew.1, lim_skew.2, lim_volt.1, lim_volt.2, lim_offs.1, lim_offs.2,
   lim_freq.1, lim_freq.2, rfl, rfl, rfl, rfl, rfl, rfl⟩

/-- For EVERY request whose arguments have the documented Python types — any scalar or per-channel list of any
    length, any channel selection incl. out-of-range, duplicated or too many channels, any data, any start
    address — the driver does not fail, and every command it emits addresses a channel in 1..4 and carries a value
    within the documented limits (`InRange`; the address of a data block is not part of it, see `set_data_addresses`). -/
theorem cmd_in_range (r : Request) (h : WellTyped r) : ∃ o, emit r = .ok o ∧ ∀ c ∈ o.cmds, InRange c :=
  (emit_spec r).resolve_right fun hn => hn.1 h

/-- without the typing hypothesis: if a request succeeds, whatever it emits is in range -/
theorem emitted_in_range (r : Request) (o : Ppg.Out) (h : emit r = .ok o) : ∀ c ∈ o.cmds, InRange c := by
  rcases emit_spec r with ⟨o', ho', hr⟩ | ⟨_, e, he⟩
  · obtain rfl := Except.ok.inj (h.symm.trans ho')
    exact hr
  · cases h.symm.trans he

/-- a float scalar where an int is required, a list frequency and an unknown mode string fail, before anything is sent
    (with ragged 2-D data these are the requests `WellTyped` excludes) -/
theorem type_errors (x : Rat) (xs : List Rat) (c : Chs) :
    emit (.pattLen (.float x) c) = .error .ValueError ∧ emit (.prbsOrder (.float x) c) = .error .ValueError ∧
    emit (.freq (.list xs)) = .error .TypeError ∧ emit (.mode .other c) = .error .ValueError :=
  ⟨rfl, rfl, rfl, rfl⟩

example : WellTyped (.voltage (.list [5, -1, 3/10]) (some [0, 9, 2, 2, 7])) := trivial
example : ∃ o, emit (.voltage (.list [5, -1, 3/10]) (some [0, 9, 2, 2, 7])) = .ok o ∧
    o.cmds = [.set .volt 1 2, .set .volt 4 (3/10), .set .volt 2 (3/10)] ∧ o.warned = true :=
  ⟨_, rfl, by decide +kernel, by decide +kernel⟩

/-- `get_data` never fails against the instrument model, for any size / start address / channel selection; its
    queries address channels 1..4 in blocks of at most 1024 bits -/
theorem get_data_in_range (m : Mem) (size start : Int) (chs : Chs) :
    ∃ o, getData m size start chs = .ok o ∧ ∀ c ∈ o.cmds, InRange c := by
  obtain ⟨o, ho, hr, _⟩ := getData_ok m size start chs
  exact ⟨o, ho, hr⟩

/-- `get_data` clamps `(size, start)` into the memory -/
theorem get_data_args_in_memory (size start : Int) :
    1 ≤ (getArgs size start).1 ∧ 1 ≤ (getArgs size start).2.1 ∧
    (getArgs size start).2.1 + ((getArgs size start).1 : Int) - 1 ≤ 2 ^ 21 := by
  obtain ⟨e1, e2⟩ := getArgs_clip size start
  have hM := gen_memory_int
  have h1 := clipI_range (lo := 1) (hi := MAX_MEMORY_LEN) (by omega) start
  have h2 := clipI_range (lo := 1) (hi := MAX_MEMORY_LEN - clipI 1 MAX_MEMORY_LEN start + 1) (by omega) size
  rw [e1, e2]
  omega

/-- every command sent during an arbitrary history of set_*/get_*/set_data/get_data calls is in range -/
theorem history_in_range (m : Mem) (ops : List Op) : ∀ c ∈ histCmds m ops, InRange c := by
  induction ops generalizing m with
  | nil => intro c hc; simp [histCmds] at hc
  | cons op ops ih =>
    intro c hc
    cases op with
    | req r =>
      unfold histCmds at hc
      cases hr : emit r with
      | error e =>
        rw [hr] at hc
        exact ih m c hc
      | ok o =>
        rw [hr] at hc
        rcases List.mem_append.mp hc with h | h
        · exact emitted_in_range r o hr c h
        · exact ih _ c h
    | getData n s cs =>
      unfold histCmds at hc
      obtain ⟨o, ho, hr, _⟩ := getData_ok m n s cs
      rw [ho] at hc
      rcases List.mem_append.mp hc with h | h
      · exact hr c h
      · exact ih m c h

/-- the normalised channel list has at most four entries, all in 1..4 -/
theorem at_most_four_channels (chs : Chs) :
    (checkChannels chs).1.length ≤ 4 ∧ ∀ c ∈ (checkChannels chs).1, ChOk c :=
  ⟨checkChannels_length chs, checkChannels_mem chs⟩

/-- the warning flag of a clamp is raised exactly when some requested value is outside the limits -/
theorem clamp_warns_iff (lo hi : Rat) (vs : List Rat) :
    (clampAll (lo, hi) (lo, hi) vs).2 = true ↔ ∃ v ∈ vs, v < lo ∨ hi < v := by
  rw [← clampAll_test]
  unfold clampAll
  by_cases hc : (vs.any (· < lo) || vs.any (hi < ·)) = true
  · rw [if_pos hc]
    exact iff_of_true rfl hc
  · rw [if_neg hc]
    exact iff_of_false Bool.false_ne_true hc

/-- values inside the limits are sent as requested, without a warning -/
theorem clamp_identity (lo hi : Rat) (vs : List Rat) (h : ∀ v ∈ vs, lo ≤ v ∧ v ≤ hi) :
    clampAll (lo, hi) (lo, hi) vs = (vs, false) := clampAll_id lo hi vs h

/-- an admissible request (channels in 1..4, amplitudes in 0.3..2 V) is sent exactly as given, without warning -/
theorem voltage_request_unchanged (cs : List Int) (vs : List Rat) (hc : ∀ c ∈ cs, ChOk c) (hl : cs.length ≤ 4)
    (hv : ∀ v ∈ vs, 3 / 10 ≤ v ∧ v ≤ 2) :
    setVoltage (.list vs) (some cs) = .ok ⟨perChannel .volt cs vs, false⟩ := by
  simp only [setVoltage, checkChannels_id cs hc hl, expand, lim_volt.1, lim_volt.2, clampAll_id _ _ vs hv,
    Bool.or_self]

theorem skew_request_unchanged (cs : List Int) (vs : List Rat) (hc : ∀ c ∈ cs, ChOk c) (hl : cs.length ≤ 4)
    (hv : ∀ v ∈ vs, -(25 / 10 ^ 12) ≤ v ∧ v ≤ 25 / 10 ^ 12) :
    setSkew (.list vs) (some cs) = .ok ⟨perChannel .skew cs vs, false⟩ := by
  simp only [setSkew, checkChannels_id cs hc hl, expand, lim_skew.1, lim_skew.2, clampAll_id _ _ vs hv,
    Bool.or_self]

theorem patt_len_request_unchanged (cs : List Int) (vs : List Rat) (hc : ∀ c ∈ cs, ChOk c) (hl : cs.length ≤ 4)
    (hv : ∀ v ∈ vs, 2 ≤ v ∧ v ≤ 2 ^ 21) :
    setPattLen (.list vs) (some cs) = .ok ⟨perChannel .pattLen cs vs, false⟩ := by
  simp only [setPattLen, checkChannels_id cs hc hl, expand, lim_pattLen.1, lim_pattLen.2, clampAll_id _ _ vs hv,
    Bool.or_self]

theorem freq_request_unchanged (f : Rat) (h1 : 15 * 10 ^ 8 ≤ f) (h2 : f ≤ 32 * 10 ^ 9) :
    setFreq (.float f) = .ok ⟨[.freq f], false⟩ := by
  rw [setFreq, setFreq_one_eq, clipR_id h1 h2, decide_eq_false (not_lt.mpr h1), decide_eq_false (not_lt.mpr h2)]
  rfl

/-- an out-of-range frequency is replaced by the nearer limit and flagged -/
theorem freq_request_clamped (f : Rat) (h : f < 15 * 10 ^ 8 ∨ 32 * 10 ^ 9 < f) :
    setFreq (.float f) = .ok ⟨[.freq (if f < 15 * 10 ^ 8 then 15 * 10 ^ 8 else 32 * 10 ^ 9)], true⟩ := by
  have hle : (15 : Rat) * 10 ^ 8 ≤ 32 * 10 ^ 9 := by norm_num
  rw [setFreq, setFreq_one_eq]
  rcases h with h | h
  · rw [clipR_of_lt hle h, if_pos h, decide_eq_true h]
    rfl
  · rw [clipR_of_gt h, if_neg (not_lt.mpr (hle.trans h.le)), decide_eq_true h, Bool.or_true]
/-- a PRBS order outside the supported list is replaced by a supported order at minimal distance -/
theorem prbs_order_snapped (ord : Int) (h : ord ∉ [7, 9, 11, 15, 23, 31]) :
    ∃ o : Int, orderFor (ord : Rat) = .ok ((o : Rat), true) ∧ o ∈ [7, 9, 11, 15, 23, 31] ∧
      ∀ x ∈ [7, 9, 11, 15, 23, 31], (o - ord).natAbs ≤ (x - ord).natAbs := by
  obtain ⟨o, ho, hm, hmin⟩ := nearest_orders ord
  refine ⟨o, ?_, hm, hmin⟩
  have hnot : ¬ (PRBS_ORDERS.any fun o => (o : Rat) == (ord : Rat)) = true := by
    rw [List.any_eq_true]
    rintro ⟨k, hk, e⟩
    exact h (Int.cast_injective (beq_iff_eq.mp e) ▸ hk)
  have htr : truncZ (ord : Rat) = ord := by simp [truncZ]
  rw [orderFor, if_neg hnot, htr, ho]
  rfl

/-- `{v:.1f}`: any nearest multiple of 1/10 of an amplitude in 0.3..2 V (offset in -2..3 V) is again within the limits -/
theorem format_1f_stays_in_range (x r : Rat) (hnear : ∀ g, Tenths g → |r - x| ≤ |g - x|) :
    (3 / 10 ≤ x ∧ x ≤ 2 → 3 / 10 ≤ r ∧ r ≤ 2) ∧ (-2 ≤ x ∧ x ≤ 3 → -2 ≤ r ∧ r ≤ 3) := by
  constructor
  · rintro ⟨h1, h2⟩
    exact nearest_in_range (G := Tenths) ⟨3, by norm_num⟩ ⟨20, by norm_num⟩ hnear h1 h2
  · rintro ⟨h1, h2⟩
    exact nearest_in_range (G := Tenths) ⟨-20, by norm_num⟩ ⟨30, by norm_num⟩ hnear h1 h2

/-- `{v:.5e}`: any nearest 6-significant-digit decimal of a frequency in 1.5..32 GHz is again within the limits -/
theorem format_5e_stays_in_range (x r : Rat) (hnear : ∀ g, Sig6 g → |r - x| ≤ |g - x|)
    (h1 : 15 * 10 ^ 8 ≤ x) (h2 : x ≤ 32 * 10 ^ 9) : 15 * 10 ^ 8 ≤ r ∧ r ≤ 32 * 10 ^ 9 :=
  nearest_in_range (G := Sig6) ⟨15, 8, by norm_num, by norm_num⟩ ⟨32, 9, by norm_num, by norm_num⟩ hnear h1 h2

/-- For data of EVERY length: each block has at most 1024 bits (and at least one unless the data is empty); in the
    header `#<k><n>`, `n` is the number of bits that follow and `k` the number of decimal digits of `n` (one character:
    `n ≤ 1024 < 10⁹`); the blocks sit at consecutive addresses from the start address, their concatenation is the data,
    and there are ⌈len/1024⌉ of them (one, empty, for empty data). -/
theorem chunks_spec (ch start : Int) (bits : List Nat) :
    (∀ c ∈ dataCmds ch start (chunks 1024 bits), ∃ addr n k b, c = .data ch addr n k b ∧ n ≤ 1024 ∧
        b.length = n ∧ HeaderOK k n ∧ (bits ≠ [] → 1 ≤ n)) ∧
    Consecutive ch start (dataCmds ch start (chunks 1024 bits)) ∧
    payload (dataCmds ch start (chunks 1024 bits)) = bits ∧
    (dataCmds ch start (chunks 1024 bits)).length = if bits.length ≤ 1024 then 1 else (bits.length + 1023) / 1024 := by
  refine ⟨?_, dataCmds_consecutive ch _ start, ?_, ?_⟩
  · intro c hc
    obtain ⟨addr, b, hb, rfl, _⟩ := dataCmds_mem ch _ start c hc
    have hl := chunks_length_le (by decide) bits b hb
    exact ⟨addr, _, _, b, rfl, hl, rfl, header_ok (by omega),
      fun hne => List.length_pos_iff.mpr (chunks_nonempty (by decide) bits hne b hb)⟩
  · rw [dataCmds_payload, chunks_flatten (by decide)]
  · rw [dataCmds_length, chunks_count (by decide)]
    rfl

example : dataCmds 3 5 (chunks 1024 (List.replicate 2049 1)) =
    [.data 3 5 1024 4 (List.replicate 1024 1), .data 3 1029 1024 4 (List.replicate 1024 1), .data 3 2053 1 1 [1]] := by
  have l (n : Nat) : (List.replicate n 1).length = n := List.length_replicate
  rw [chunks_big (by rw [l]; decide) (by decide), List.take_replicate, List.drop_replicate,
    chunks_big (by rw [l]; decide) (by decide), List.take_replicate, List.drop_replicate,
    chunks_small (by rw [l]; decide)]
  simp only [dataCmds, l]
  rfl

/-- `set_data` of 1-D data that fits into the memory sends, for every selected channel, exactly these blocks -/
theorem set_data_blocks (xs : List Int) (start : Int) (chs : Chs) (h : (xs.length : Int) ≤ 2 ^ 21 - start + 1) :
    setData (.flat xs) start chs = .ok ⟨((checkChannels chs).1.map
      (fun ch => dataCmds ch start (chunks 1024 (xs.map bit)))).flatten, (checkChannels chs).2⟩ := by
  rw [setData_flat_eq_ok xs start chs h, blocksFor_replicate]
  rfl

/-- 2-D (one row per channel) data whose rows fit into the memory are sent row by row to the selected channels,
    untruncated and without a warning from the length test -/
theorem set_data_blocks_2d (r : List Int) (rest : List (List Int)) (start : Int) (chs : Chs)
    (hall : ∀ r' ∈ rest, r'.length = r.length) (h : (r.length : Int) ≤ 2 ^ 21 - start + 1) :
    setData (.rows (r :: rest)) start chs =
      .ok ⟨blocksFor start (checkChannels chs).1 ((r :: rest).map (·.map bit)), (checkChannels chs).2⟩ :=
  setData_rows_eq_ok r rest start chs hall h

/-- with a start address inside the memory every block lies inside the memory `1..2^21`, for 1-D and 2-D data of any
    length (the bits per channel are truncated to what fits, also next to the end of the memory) -/
theorem set_data_addresses (d : DataArg) (start : Int) (chs : Chs) (h1 : 1 ≤ start) (h2 : start ≤ 2 ^ 21)
    (o : Ppg.Out) (ho : setData d start chs = .ok o) :
    ∀ c ∈ o.cmds, ∃ ch addr n k b, c = .data ch addr n k b ∧ 1 ≤ addr ∧ addr + (n : Int) - 1 ≤ 2 ^ 21 := by
  have hM := gen_memory_int
  obtain ⟨perCh, hcmds, hlen⟩ := setData_cmds d start chs o ho
  intro c hc
  rw [hcmds] at hc
  obtain ⟨ch, addr, n, k, b, rfl, ha1, ha2⟩ := blocksFor_addr start _ perCh _ (hlen (by omega)) c hc
  exact ⟨ch, addr, n, k, b, rfl, by omega, by omega⟩

/-- the driver's parsing of one answer block `#<k><n><bits>\n` returns the bits (cells read back as 0/1) -/
theorem reply_parsed (bits : List Nat) (h : bits.length ≤ 1024) : parseReply (reply bits) = .ok (bits.map norm) :=
  parseReply_reply bits (by omega)

/-- the blocks of the read-back -/
theorem get_data_blocks (n : Nat) : (counts n).sum = n ∧ (∀ c ∈ counts n, c ≤ 1024) ∧ (1 ≤ n → ∀ c ∈ counts n, 1 ≤ c) :=
  ⟨counts_sum n, fun _ hc => (counts_mem hc).1, fun hn _ hc => (counts_mem hc).2 hn⟩

/-- For data of every length ≥ 1 that fits, every start address in 1..2^21, every channel selection (also
    out-of-range / duplicated / too many channels) and every prior memory content: after the instrument has executed
    the blocks written by `set_data`, `get_data` of the same range — read in blocks of ≤ 1024 bits and parsed with
    `b[k+2:-1]` from the `#<k><n><bits>\n` answers — returns exactly the written bits for every selected channel. -/
theorem get_set_roundtrip (m : Mem) (xs : List Int) (start : Int) (chs : Chs)
    (h1 : 1 ≤ start) (h2 : start ≤ 2 ^ 21) (h3 : 1 ≤ xs.length) (h4 : (xs.length : Int) ≤ 2 ^ 21 - start + 1) :
    ∃ o g, setData (.flat xs) start chs = .ok o ∧
      getData (m.execAll o.cmds) xs.length start chs = .ok g ∧
      g.data = List.replicate (checkChannels chs).1.length (xs.map bit) ∧
      o.warned = (checkChannels chs).2 ∧ g.warned = (checkChannels chs).2 :=
  roundtrip m xs start chs h1 h2 h3 h4

example : ∃ o g, setData (.flat [1, 0, 0, 1, 1]) 2097148 (some [7, 2]) = .ok o ∧
    getData (Mem.zero.execAll o.cmds) 5 2097148 (some [7, 2]) = .ok g ∧ g.data = [[1, 0, 0, 1, 1], [1, 0, 0, 1, 1]] := by
  obtain ⟨o, g, h1, h2, h3, _⟩ := get_set_roundtrip Mem.zero [1, 0, 0, 1, 1] 2097148 (some [7, 2])
    (by norm_num) (by norm_num) (by decide) (by norm_num)
  exact ⟨o, g, h1, h2, by rw [h3]; decide⟩

/-- The same for 2-D data (a different row per channel): pairwise different channels in 1..4, as many rows as
    channels, rows of equal length ≥ 1 that fit between the start address and the end of the memory (also exactly at
    the end): `get_data` returns every row for its channel. -/
theorem get_set_roundtrip_2d (m : Mem) (r : List Int) (rest : List (List Int)) (start : Int) (cs : List Int)
    (hc : ∀ c ∈ cs, ChOk c) (hnd : cs.Nodup) (hlen : cs.length = (r :: rest).length)
    (hall : ∀ r' ∈ rest, r'.length = r.length)
    (h1 : 1 ≤ start) (h2 : start ≤ 2 ^ 21) (h3 : 1 ≤ r.length) (h4 : (r.length : Int) ≤ 2 ^ 21 - start + 1) :
    ∃ o g, setData (.rows (r :: rest)) start (some cs) = .ok o ∧
      getData (m.execAll o.cmds) r.length start (some cs) = .ok g ∧
      g.data = (r :: rest).map (·.map bit) ∧ o.warned = false ∧ g.warned = false := by
  -- pairwise different channels in 1..4 are at most four
  have hsub : cs ⊆ [1, 2, 3, 4] := fun c hcm => by
    have := hc c hcm
    unfold ChOk at this
    simp only [List.mem_cons, List.not_mem_nil, or_false]
    omega
  have hcc := checkChannels_id cs hc (by simpa using (List.subperm_of_subset hnd hsub).length_le)
  have := roundtrip2d m r rest start (some cs) (by rwa [hcc]) (by rwa [hcc]) hall h1 h2 h3 h4
  rwa [hcc] at this

/-- three rows of two bits at the last two addresses, channels 1,2,3 -/
example : ∃ o g, setData (.rows [[1, 0], [0, 1], [1, 1]]) 2097151 (some [1, 2, 3]) = .ok o ∧
    getData (Mem.zero.execAll o.cmds) 2 2097151 (some [1, 2, 3]) = .ok g ∧ g.data = [[1, 0], [0, 1], [1, 1]] := by
  obtain ⟨o, g, h1, h2, h3, _⟩ := get_set_roundtrip_2d Mem.zero [1, 0] [[0, 1], [1, 1]] 2097151 [1, 2, 3]
    (by intro c hc; simp only [List.mem_cons, List.not_mem_nil, or_false] at hc; unfold ChOk; omega)
    (by decide) (by decide) (by intro r' hr; simp only [List.mem_cons, List.not_mem_nil, or_false] at hr; rcases hr with rfl | rfl <;> rfl)
    (by norm_num) (by norm_num) (by decide) (by norm_num)
  exact ⟨o, g, h1, h2, by rw [h3]; decide⟩

theorem kron_length (tx : List Int) (sps : Nat) : (kron tx sps).length = tx.length * sps := kron_len tx sps

/-- a record shorter than the pattern's waveform (`len(rx) < len(slots)·sps`) is rejected with `BufferError`,
    and only such records are -/
theorem short_record_buffer_error (rx tx : List Int) (sps : Nat) :
    sync rx tx sps = .error .Buffer ↔ rx.length < tx.length * sps := by
  rw [← kron_length]
  exact syncW_eq_buffer_iff rx (kron tx sps)

/-- the alignment step alone rejects such a record in the same way -/
theorem short_record_lag (rx tx : List Int) (sps : Nat) (h : rx.length < tx.length * sps) :
    syncLag rx tx sps = .error .Buffer := by
  rw [← kron_length] at h
  exact (lagW_eq_buffer_iff rx (kron tx sps)).mpr h

/-- Alignment.  Let `w` be the pattern's waveform (`l` samples) and let the record be `w` repeated and delayed by
    `d < l` samples: `rx[k] = w[(k - d) mod l]` on at least two periods (`rx = s ++ s ++ tail`, `s = w` rotated left
    by `l - d`; `tail` arbitrary).  Aperiodicity hypothesis: no cyclic shift by `0 < m < l` maps `w` to itself.
    Then the argmax over the lags `0 … l-1` of the cross-correlation is exactly `d`. -/
theorem sync_argmax (tx : List Int) (sps d : Nat) (tail : List Int)
    (hd : d < (kron tx sps).length)
    (hap : ∀ m, 0 < m → m < (kron tx sps).length → (kron tx sps).rotate m ≠ kron tx sps) :
    syncLag ((kron tx sps).rotate ((kron tx sps).length - d) ++ (kron tx sps).rotate ((kron tx sps).length - d) ++ tail)
      tx sps = .ok d :=
  lagW_delayed _ tail d hd hap

/-- a 0/1 slot pattern gives a waveform without negative samples -/
theorem kron_nonneg (tx : List Int) (sps : Nat) (h : ∀ b ∈ tx, 0 ≤ b) : ∀ x ∈ kron tx sps, 0 ≤ x :=
  fun x hx => h x (mem_kron hx)

/-- the hypothesis of `kron_nonneg` for the PRBS3 period -/
example : ∀ b ∈ ([1, 1, 1, 0, 1, 0, 0] : List Int), 0 ≤ b := by decide

/-- The same when nothing precedes the first period (`rx = zeros(d) ++ w ++ w ++ tail`), for waveforms without negative
    samples (slot patterns are 0/1): the argmax is again exactly `d`. -/
theorem sync_argmax_zero_prefix (tx : List Int) (sps d : Nat) (tail : List Int)
    (hd : d < (kron tx sps).length) (hnn : ∀ x ∈ kron tx sps, 0 ≤ x)
    (hap : ∀ m, 0 < m → m < (kron tx sps).length → (kron tx sps).rotate m ≠ kron tx sps) :
    syncLag (List.replicate d 0 ++ kron tx sps ++ kron tx sps ++ tail) tx sps = .ok d :=
  lagW_zero_prefix _ tail d hd hnn hap

/-- The aperiodicity hypothesis can be stated on the slot pattern itself: if no cyclic shift by `0 < m < len(slots)`
    maps the slot pattern (at least two slots) to itself, then for every `sps ≥ 1` no cyclic shift by
    `0 < m < len(slots)·sps` samples maps its waveform to itself. -/
theorem waveform_aperiodic (tx : List Int) (sps : Nat) (hs : 0 < sps) (hn : 2 ≤ tx.length)
    (hap : ∀ m, 0 < m → m < tx.length → tx.rotate m ≠ tx) :
    ∀ m, 0 < m → m < (kron tx sps).length → (kron tx sps).rotate m ≠ kron tx sps := by
  intro m hm0 hml hrot
  rw [kron_length, Nat.mul_comm] at hml
  have hA := rotate_kron_slots tx sps m hs hrot 0 hs
  rw [Nat.zero_add] at hA
  by_cases hr : m % sps = 0
  · exact hap (m / sps) (Nat.div_pos (Nat.le_of_dvd hm0 (Nat.dvd_of_mod_eq_zero hr)) hs) (Nat.div_lt_of_lt_mul hml) hA
  · -- the last sample of a slot lands one slot further than its first: invariant under one more slot, hence under one
    have hB := rotate_kron_slots tx sps m hs hrot (sps - 1) (by omega)
    have e : (sps - 1 + m) / sps = m / sps + 1 := by
      have h1 := Nat.div_add_mod m sps
      have h2 := Nat.mod_lt m hs
      apply Nat.div_eq_of_lt_le
      · rw [Nat.add_mul, Nat.one_mul, Nat.mul_comm]; omega
      · rw [Nat.add_mul, Nat.add_mul, Nat.one_mul, Nat.mul_comm]; omega
    rw [e] at hB
    refine hap 1 Nat.one_pos (by omega) ?_
    conv_lhs => rw [← hA]
    rw [List.rotate_rotate, hB]

/-- Alignment, hypothesis on the slot pattern: for an aperiodic slot pattern of ≥ 2 slots, every `sps ≥ 1`, every
    delay `d < len(slots)·sps` and the record "waveform repeated (≥ 2 periods) and delayed by d", SYNC's argmax is `d`. -/
theorem sync_argmax_pattern (tx : List Int) (sps d : Nat) (tail : List Int) (hs : 0 < sps) (hn : 2 ≤ tx.length)
    (hd : d < tx.length * sps) (hap : ∀ m, 0 < m → m < tx.length → tx.rotate m ≠ tx) :
    syncLag ((kron tx sps).rotate ((kron tx sps).length - d) ++ (kron tx sps).rotate ((kron tx sps).length - d) ++ tail)
      tx sps = .ok d :=
  sync_argmax tx sps d tail (by rw [kron_length]; exact hd) (waveform_aperiodic tx sps hs hn hap)

/-- non-vacuity: the PRBS3 period 1110100 is an aperiodic slot pattern -/
example : ∀ m, 0 < m → m < ([1, 1, 1, 0, 1, 0, 0] : List Int).length →
    ([1, 1, 1, 0, 1, 0, 0] : List Int).rotate m ≠ [1, 1, 1, 0, 1, 0, 0] := by
  have : ∀ m : Fin 7, 0 < m.val → ([1, 1, 1, 0, 1, 0, 0] : List Int).rotate m.val ≠ [1, 1, 1, 0, 1, 0, 0] := by decide
  intro m h1 h2
  exact this ⟨m, h2⟩ h1

/-- The complete `SYNC` on such a record either returns index `d` and the record from sample `d` on (`len(rx) - l`
    samples), or rejects it with `ValueError` (the `max < 3·std` test — left to the oracle); never anything else. -/
theorem sync_returns_delay (tx : List Int) (sps d : Nat) (tail : List Int)
    (hd : d < (kron tx sps).length)
    (hap : ∀ m, 0 < m → m < (kron tx sps).length → (kron tx sps).rotate m ≠ kron tx sps)
    (rx : List Int)
    (hrx : rx = (kron tx sps).rotate ((kron tx sps).length - d) ++ (kron tx sps).rotate ((kron tx sps).length - d) ++ tail) :
    (∃ o, sync rx tx sps = .ok o ∧ o.index = d ∧ o.signal = (rx.drop d).take (rx.length - (kron tx sps).length)) ∨
    sync rx tx sps = .error .ValueError := by
  subst hrx
  exact syncW_of_lagW (sync_argmax tx sps d tail hd hap)

/-- non-vacuity: the PRBS3 period 1110100 at 2 samples per slot is aperiodic -/
example : ∀ m, 0 < m → m < (kron [1, 1, 1, 0, 1, 0, 0] 2).length →
    (kron [1, 1, 1, 0, 1, 0, 0] 2).rotate m ≠ kron [1, 1, 1, 0, 1, 0, 0] 2 := by
  have : ∀ m : Fin 14, 0 < m.val → (kron [1, 1, 1, 0, 1, 0, 0] 2).rotate m.val ≠ kron [1, 1, 1, 0, 1, 0, 0] 2 := by
    decide
  intro m h1 h2
  exact this ⟨m, h2⟩ h1

/-- the model run on that instance, delayed by 5 -/
example : syncLag ([1, 0, 0, 0, 0, 1, 1, 1, 1, 1, 1, 0, 0, 1,   1, 0, 0, 0, 0, 1, 1, 1, 1, 1, 1, 0, 0, 1,   1, 0, 0, 0, 0])
    [1, 1, 1, 0, 1, 0, 0] 2 = .ok 5 := by decide

/-- the returned signal starts with a whole period of the pattern's waveform: from sample `d` on the record reads
    `w ++ …` -/
theorem delayed_record_aligned (w tail : List Int) (d : Nat) (hd : d < w.length) :
    (w.rotate (w.length - d) ++ w.rotate (w.length - d) ++ tail).drop d =
      w ++ (w.take (w.length - d) ++ tail) := by
  rw [← delayed, delayed_eq w tail d (le_of_lt hd)]
  exact List.drop_left' (by rw [List.length_drop]; omega)

section Noise
variable {R : Type} [CommRing R] [LinearOrder R] [IsStrictOrderedRing R]

/-- the cross-correlation is additive in the record, lag by lag: `corr(clean + e) = corr(clean) + corr(e)` -/
theorem sync_corr_linear (c e w : List R) (h : c.length = e.length) :
    (∀ i, corrAt (addL c e) w i = corrAt c w i + corrAt e w i) ∧
    corr (addL c e) w = addL (corr c w) (corr e w) :=
  ⟨corrAt_add c e w h, corr_add c e w h⟩

/-- Decision margin for ANY clean record `c`: if for every competing lag `m ≠ d` the noise contribution satisfies
    `ce(m) − ce(d) < cc(d) − cc(m)` (the noise moves no competing lag up to the clean peak), the alignment step on
    `c + e` returns `d`.  (This is the hypothesis the harness evaluates numerically on every noisy case.) -/
theorem sync_margin_general (c e w : List R) (h : c.length = e.length) (d : Nat) (hl : w.length ≤ c.length)
    (hw : 0 < w.length) (hd : d < (corr c w).length)
    (hm : ∀ m, m < (corr c w).length → m ≠ d → corrAt e w m - corrAt e w d < corrAt c w d - corrAt c w m) :
    lagW (addL c e) w = .ok d :=
  lagW_margin c e w h d hl hw hd hm

/-- the clean delayed record: its correlation is the cyclic autocorrelation of the waveform, `cc(m) = R((l−d+m) mod l)`
    with `R(k) = Σ w·shiftₖ(w)`, peak `cc(d) = R(0) = Σ w²`; for a 0/1 slot pattern `R(0) = sps · (number of ones)` -/
theorem sync_clean_corr (tx : List R) (sps d : Nat) (tail : List R) (hd : d < (kron tx sps).length) :
    (∀ m, m < (kron tx sps).length →
      corrAt ((kron tx sps).rotate ((kron tx sps).length - d) ++ (kron tx sps).rotate ((kron tx sps).length - d) ++ tail)
        (kron tx sps) m = dot ((kron tx sps).rotate (((kron tx sps).length - d + m) % (kron tx sps).length)) (kron tx sps)) ∧
    corrAt ((kron tx sps).rotate ((kron tx sps).length - d) ++ (kron tx sps).rotate ((kron tx sps).length - d) ++ tail)
        (kron tx sps) d = dot (kron tx sps) (kron tx sps) ∧
    ((∀ b ∈ tx, b = 0 ∨ b = 1) → dot (kron tx sps) (kron tx sps) = (sps : R) * total tx ∧
      sumAbs (kron tx sps) = (sps : R) * total tx) := by
  refine ⟨fun m hm => corrAt_delayed _ tail d m hm, corrAt_delayed_peak _ tail d hd, fun h01 => ?_⟩
  obtain ⟨h1, h2⟩ := sumAbs_01 (kron tx sps) fun x hx => h01 x (mem_kron hx)
  rw [h1, h2, total_kron]
  exact ⟨rfl, rfl⟩

/-- the gap `cc(d) − cc(m)` of the clean record is positive at every competing lag under the aperiodicity hypothesis
    of `sync_argmax` -/
theorem sync_gap_pos (w : List R) (d m : Nat) (hd : d < w.length) (hm : m < w.length) (hne : m ≠ d)
    (hap : ∀ k, 0 < k → k < w.length → w.rotate k ≠ w) :
    0 < dot w w - dot (w.rotate ((w.length - d + m) % w.length)) w :=
  sub_pos.mpr (dot_delay_lt w d m hd hm hne hap)

/-- **Decision margin for the delayed repeated pattern.**  `rx = clean + e`, `clean` = the waveform repeated (≥ 2 periods)
    and delayed by `d < l` as in `sync_argmax`, `e` any perturbation of the same length.  If for every lag `m ≠ d`
    (`m < l`)  `ce(m) − ce(d) < R(0) − R((l−d+m) mod l)`,  then the argmax over the lags `0 … l−1` is still `d`, and the
    complete SYNC returns index `d` and `rx[d : d+len−l]` unless its `max < 3·std` test rejects the record. -/
theorem sync_argmax_margin (tx : List R) (sps d : Nat) (tail e rx : List R) (hd : d < (kron tx sps).length)
    (he : e.length = ((kron tx sps).rotate ((kron tx sps).length - d) ++ (kron tx sps).rotate ((kron tx sps).length - d)
      ++ tail).length)
    (hrx : rx = addL ((kron tx sps).rotate ((kron tx sps).length - d) ++ (kron tx sps).rotate ((kron tx sps).length - d)
      ++ tail) e)
    (hm : ∀ m, m < (kron tx sps).length → m ≠ d → corrAt e (kron tx sps) m - corrAt e (kron tx sps) d <
      dot (kron tx sps) (kron tx sps) -
        dot ((kron tx sps).rotate (((kron tx sps).length - d + m) % (kron tx sps).length)) (kron tx sps)) :
    syncLag rx tx sps = .ok d ∧
    ((∃ o, sync rx tx sps = .ok o ∧ o.index = d ∧ o.signal = (rx.drop d).take (rx.length - (kron tx sps).length)) ∨
      sync rx tx sps = .error .ValueError) := by
  subst hrx
  have hlag := lagW_delayed_add (kron tx sps) tail e d hd he hm
  exact ⟨hlag, syncW_of_lagW hlag⟩

/-- the symmetric form: if `|ce(m)| < g/2` at every lag, where `g` is a lower bound of all gaps `R(0) − R(k)`,
    `0 < k < l`, the alignment is `d` -/
theorem sync_argmax_half_gap (w tail e : List R) (d : Nat) (g : R) (hd : d < w.length)
    (he : e.length = (w.rotate (w.length - d) ++ w.rotate (w.length - d) ++ tail).length)
    (hg : ∀ k, 0 < k → k < w.length → g ≤ dot w w - dot (w.rotate k) w)
    (hn : ∀ m, m < w.length → 2 * |corrAt e w m| < g) :
    lagW (addL (w.rotate (w.length - d) ++ w.rotate (w.length - d) ++ tail) e) w = .ok d :=
  lagW_delayed_of_abs w tail e d hd he fun m k hm hk hkl => by
    have h2 := add_lt_add (hn m hm) (hn d hd)
    rw [← mul_add, ← two_mul] at h2
    exact (lt_of_mul_lt_mul_left h2 zero_le_two).trans_le (hg k hk hkl)

/-- **Crude amplitude bound.**  If every noise sample satisfies `|eᵢ| ≤ ε` then `|ce(m)| ≤ ε·Σ|w|` at every lag; hence
    `2·ε·Σ|w| < R(0) − R(k)` for all `0 < k < l` (for a 0/1 pattern: `ε < gap / (2·sps·ones)`) suffices for the
    alignment to be `d`. -/
theorem sync_noise_amplitude_bound (w tail e : List R) (d : Nat) (ε : R) (hε : 0 ≤ ε) (hd : d < w.length)
    (he : e.length = (w.rotate (w.length - d) ++ w.rotate (w.length - d) ++ tail).length)
    (hb : ∀ x ∈ e, |x| ≤ ε)
    (hg : ∀ k, 0 < k → k < w.length → 2 * ε * sumAbs w < dot w w - dot (w.rotate k) w) :
    (∀ m, |corrAt e w m| ≤ ε * sumAbs w) ∧
    lagW (addL (w.rotate (w.length - d) ++ w.rotate (w.length - d) ++ tail) e) w = .ok d := by
  have hc := corrAt_abs_le e w ε hε hb
  exact ⟨hc, lagW_delayed_of_abs w tail e d hd he fun m k _ hk hkl => by
    have h2 := add_le_add (hc m) (hc d)
    rw [← two_mul, ← mul_assoc] at h2
    exact h2.trans_lt (hg k hk hkl)⟩

end Noise

/-- non-vacuity of the amplitude bound over ℤ: PRBS3 `1110100` with amplitude 10 at 2 samples per slot has
    `Σ|w| = 80`, `R(0) = 800` and all gaps `R(0) − R(k) ≥ 200`, so any perturbation with `|eᵢ| ≤ 1` (10 % of the
    amplitude) satisfies `2·ε·Σ|w| = 160 < gap` -/
example : ∀ k, 0 < k → k < (kron ([10, 10, 10, 0, 10, 0, 0] : List Int) 2).length →
    2 * 1 * sumAbs (kron ([10, 10, 10, 0, 10, 0, 0] : List Int) 2) <
      dot (kron ([10, 10, 10, 0, 10, 0, 0] : List Int) 2) (kron [10, 10, 10, 0, 10, 0, 0] 2) -
        dot ((kron ([10, 10, 10, 0, 10, 0, 0] : List Int) 2).rotate k) (kron [10, 10, 10, 0, 10, 0, 0] 2) := by
  have : ∀ k : Fin 14, 0 < k.val →
      2 * 1 * sumAbs (kron ([10, 10, 10, 0, 10, 0, 0] : List Int) 2) <
        dot (kron ([10, 10, 10, 0, 10, 0, 0] : List Int) 2) (kron [10, 10, 10, 0, 10, 0, 0] 2) -
          dot ((kron ([10, 10, 10, 0, 10, 0, 0] : List Int) 2).rotate k.val) (kron [10, 10, 10, 0, 10, 0, 0] 2) := by
    decide
  intro k h1 h2
  exact this ⟨k, h2⟩ h1

/-- a perturbed record of that pattern (delay 5, perturbation ±1) is aligned at 5 -/
example : syncLag (addL ((kron ([10, 10, 10, 0, 10, 0, 0] : List Int) 2).rotate 9 ++ (kron [10, 10, 10, 0, 10, 0, 0] 2).rotate 9
    ++ [10, 0, 0]) [1, -1, 1, 1, -1, 0, 1, -1, -1, 1, 1, -1, 1, 0, -1, 1, 1, -1, 1, -1, 0, 1, -1, 1, 1, -1, 1, 1, -1, 1, -1])
    [10, 10, 10, 0, 10, 0, 0] 2 = .ok 5 := by decide

end OptiVerif.Props.C20
