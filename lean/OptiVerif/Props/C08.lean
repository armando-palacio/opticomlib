/-
C08 — nonlinear FIBER conserves energy up to loss (for every adaptive step schedule), reproduces SPM in closed
form without dispersion, treats one polarisation like the x-polarisation of two, terminates, rotates the nonlinear phase by
at most phi_max per step, and is C07's linear fibre when gamma = 0.
Theorems about `Model/FiberNL.lean` at ℝ; the driver runs the same definitions at Float against FIBER().
-/
import OptiVerif.Lemmas.FiberNLPol
import OptiVerif.Lemmas.FiberNLTerm

namespace OptiVerif.Props.C08
open OptiVerif.Fourier OptiVerif.Fiber OptiVerif.FiberNL

/-- one symmetric split step multiplies the energy of every row by exactly exp(-alpha' h) -/
theorem step_energy (wConv fs alphaP b2 b3 gamma : ℝ) (xs : List (Cx ℝ)) (h : ℝ) :
    sumSq (stepRow wConv fs alphaP b2 b3 gamma xs h) = Real.exp (-alphaP * h) * sumSq xs :=
  sumSq_stepRow wConv fs alphaP b2 b3 gamma xs h

/-- **any schedule**: applying any list of steps multiplies each row's energy by exp(-alpha' Σh) -/
theorem schedule_energy (wConv fs alphaP b2 b3 gamma : ℝ) (hs : List ℝ) (A : Rows ℝ) :
    (hs.foldl (step wConv fs alphaP b2 b3 gamma) A).map sumSq
      = (A.map sumSq).map (fun e => Real.exp (-alphaP * hs.sum) * e) := by
  induction hs generalizing A with
  | nil => simp
  | cons h hs ih =>
    rw [List.foldl_cons, ih, map_sumSq_step, List.map_map, List.sum_cons]
    refine List.map_congr_left fun e _ => ?_
    rw [Function.comp_apply, ← mul_assoc, ← Real.exp_add]
    congr 2
    ring

/-- Structure of every successful run: either the dispersionless closed form, or the input pushed through the
    returned list of split steps, which sum to the fibre length exactly. -/
theorem fiber_spec {wConv kappa fs alpha b2 b3 gamma phiMax L : ℝ} {fuel : ℕ} {A : Rows ℝ} {out : Out ℝ}
    (hok : fiber wConv kappa fs alpha b2 b3 gamma phiMax L fuel A = .ok out) :
    ((b2 = 0 ∧ b3 = 0 ∧ gamma ≠ 0) ∧ out.rows = A.map (spmRow (alpha / kappa) gamma L) ∧ out.steps = []) ∨
    (¬ (b2 = 0 ∧ b3 = 0 ∧ gamma ≠ 0) ∧
      out.rows = out.steps.foldl (step wConv fs (alpha / kappa) b2 b3 gamma) A ∧ out.steps.sum = L) := by
  by_cases hd : b2 = 0 ∧ b3 = 0 ∧ gamma ≠ 0
  · rw [fiber_of_spm _ _ _ _ hd] at hok
    obtain rfl := Except.ok.inj hok
    exact Or.inl ⟨hd, rfl, rfl⟩
  · obtain ⟨hr, hs, -⟩ := fiber_ok (fun _ _ => True) hd trivial (fun _ _ _ => trivial) (fun _ _ _ _ _ _ => trivial) hok
    exact Or.inr ⟨hd, hr, hs⟩

/-- in the loop branch the steps sum to the fibre length (the closed-form branch returns no steps) -/
theorem steps_sum (wConv kappa fs alpha b2 b3 gamma phiMax L : ℝ) (fuel : ℕ) (A : Rows ℝ) (out : Out ℝ)
    (hok : fiber wConv kappa fs alpha b2 b3 gamma phiMax L fuel A = .ok out)
    (hdisp : ¬ (b2 = 0 ∧ b3 = 0 ∧ gamma ≠ 0)) : out.steps.sum = L := by
  rcases fiber_spec hok with ⟨h, _⟩ | ⟨_, _, h⟩
  · exact absurd h hdisp
  · exact h

theorem normSq_spm (alphaP gamma L : ℝ) (a : Cx ℝ) :
    (a * Cx.exp ⟨-(alphaP / ((2 : ℕ) : ℝ)) * L, gamma * lEff alphaP L * a.normSq⟩).normSq
      = Real.exp (-alphaP * L) * a.normSq := by
  rw [Cx.normSq_mul, Cx.normSq_exp, mul_comm]
  congr 2
  ring

theorem sumSq_spmRow (alphaP gamma L : ℝ) (xs : List (Cx ℝ)) :
    sumSq (spmRow alphaP gamma L xs) = Real.exp (-alphaP * L) * sumSq xs :=
  sumSq_pointwise (List.length_map _) fun k _ => by
    simp only [spmRow, List.getElem_map]
    exact normSq_spm alphaP gamma L _

/-- **energy law**: whatever phi_max, dispersion, nonlinearity and step schedule, every polarisation leaves the
    fibre with exp(-alpha' L) times its input energy (alpha' = alpha / kappa) -/
theorem fiber_energy (wConv kappa fs alpha b2 b3 gamma phiMax L : ℝ) (fuel : ℕ) (A : Rows ℝ) (out : Out ℝ)
    (hok : fiber wConv kappa fs alpha b2 b3 gamma phiMax L fuel A = .ok out) :
    out.rows.map sumSq = (A.map sumSq).map (fun e => Real.exp (-(alpha / kappa) * L) * e) := by
  rcases fiber_spec hok with ⟨_, hr, _⟩ | ⟨_, hr, hs⟩
  · rw [hr]
    simp [sumSq_spmRow]
  · rw [hr, schedule_energy, hs]

/-- the output has the input's layout: same number of rows, same row lengths -/
theorem fiber_shape (wConv kappa fs alpha b2 b3 gamma phiMax L : ℝ) (fuel : ℕ) (A : Rows ℝ) (out : Out ℝ)
    (hok : fiber wConv kappa fs alpha b2 b3 gamma phiMax L fuel A = .ok out) :
    out.rows.map List.length = A.map List.length := by
  rcases fiber_spec hok with ⟨_, hr, _⟩ | ⟨_, hr, _⟩
  · rw [hr]; simp [length_spmRow]
  · rw [hr, shape_fold]

/-- the effective length of the closed form: (1 - exp(-alpha' L)) / alpha', and L without loss -/
theorem lEff_spec (alphaP L : ℝ) :
    lEff alphaP L = if alphaP = 0 then L else (1 - Real.exp (-(alphaP * L))) / alphaP := by
  by_cases h : alphaP = 0 <;> simp [lEff, h]

/-- without dispersion (and gamma ≠ 0) every sample is in · exp(-alpha' L/2) · exp(j gamma |in|² L_eff) -/
theorem spm_closed_form (wConv kappa fs alpha gamma phiMax L : ℝ) (hg : gamma ≠ 0) (fuel : ℕ) (A : Rows ℝ) :
    fiber wConv kappa fs alpha 0 0 gamma phiMax L fuel A
      = .ok ⟨A.map (fun row => row.map (fun a =>
          a * Cx.smul (Real.exp (-(alpha / kappa / 2) * L)) (Cx.cis (gamma * lEff (alpha / kappa) L * a.normSq)))), []⟩ := by
  rw [fiber_of_spm _ _ _ _ ⟨rfl, rfl, hg⟩]
  simp [spmRow, Cx.exp]

/-- FIBER on the two-polarisation signal [x, 0] returns [FIBER(x), 0] with exactly the same step schedule
    (`o.rows` is `[FIBER(x)]`, so `o.rows.headD []` is FIBER(x)) -/
theorem one_pol_eq_x_pol (wConv kappa fs alpha b2 b3 gamma phiMax L : ℝ) (fuel : ℕ) (x : List (Cx ℝ)) :
    fiber wConv kappa fs alpha b2 b3 gamma phiMax L fuel [x, zeros x.length]
      = (fiber wConv kappa fs alpha b2 b3 gamma phiMax L fuel [x]).map
          (fun o => ⟨[o.rows.headD [], zeros (o.rows.headD []).length], o.steps⟩) :=
  fiber_pair wConv kappa fs alpha b2 b3 gamma phiMax L fuel x

/-- without nonlinearity (gamma = 0) FIBER takes one step of the whole length and every row is C07's linear all-pass
    `fiberLinRow` (so C07's theorems — loss factor, span additivity, FIBER(L, β₂) = DM(β₂L) — apply to this model verbatim) -/
theorem gamma0_is_linear_fiber (wConv kappa fs alpha b2 b3 phiMax L : ℝ) (A : Rows ℝ) (hL : 0 < L) (fuel : ℕ) (hf : 1 ≤ fuel) :
    fiber wConv kappa fs alpha b2 b3 0 phiMax L fuel A
      = .ok ⟨A.map (fiberLinRow wConv kappa fs alpha b2 b3 L), [L]⟩ := by
  obtain ⟨f, rfl⟩ := Nat.exists_eq_add_of_le' hf
  have h0 : firstH b2 b3 0 phiMax L A = L := by simp [firstH_eq]
  -- the rule proposes `L` again, so the first iteration returns and nothing is left over
  rw [fiber_of_loop _ _ _ _ (by simp), h0, loop_exit (by simp [nextH, hL])]
  simp [Except.map, step, stepRow_gamma0, fiberLinRow]

/-- a single split step without nonlinearity is the linear filter of that step length -/
theorem step_gamma0_is_linear (wConv fs alphaP b2 b3 : ℝ) (xs : List (Cx ℝ)) (h : ℝ) :
    stepRow wConv fs alphaP b2 b3 0 xs h = applyH (fiberH wConv (wAxis xs.length fs) alphaP b2 b3 h) xs :=
  stepRow_gamma0 wConv fs alphaP b2 b3 xs h

set_option linter.unusedVariables false in -- `hdisp` is not needed
/-- **termination with an explicit bound**: in the dispersive branch, for a non-zero field in one of the two container
    layouts, positive gamma, phi_max and L and non-negative loss, the adaptive loop returns as soon as the fuel exceeds
    L·gamma·E0/phi_max + 2 (E0 = total input energy).  Not tight: `fiber_terminates` has `0 ≤ L`, `+ 1`, and both branches. -/
theorem terminates (wConv kappa fs alpha b2 b3 gamma phiMax L : ℝ) (A : Rows ℝ) (hA : Layout A)
    (hg : 0 < gamma) (hdisp : ¬ (b2 = 0 ∧ b3 = 0)) (hphi : 0 < phiMax) (hL : 0 < L) (ha : 0 ≤ alpha / kappa)
    (hE : 0 < energy A) (fuel : ℕ) (hfuel : L * gamma * energy A / phiMax + 2 < fuel) :
    ∃ out, fiber wConv kappa fs alpha b2 b3 gamma phiMax L fuel A = .ok out :=
  fiber_terminates wConv kappa fs alpha b2 b3 hA hg hphi hL.le ha hE (((add_lt_add_iff_left _).mpr one_lt_two).trans hfuel)

/-- without nonlinearity one full-length step is taken and the loop stops at once (fuel 1 suffices) -/
theorem terminates_linear (wConv kappa fs alpha b2 b3 phiMax L : ℝ) (A : Rows ℝ) (hL : 0 < L) (fuel : ℕ) (hf : 1 ≤ fuel) :
    ∃ out, fiber wConv kappa fs alpha b2 b3 0 phiMax L fuel A = .ok out :=
  ⟨_, gamma0_is_linear_fiber wConv kappa fs alpha b2 b3 phiMax L A hL fuel hf⟩

set_option linter.unusedVariables false in -- `hA`, `hdisp` are not needed: `fiber_phase_bounded`
/-- **phase bound**: in the dispersive nonlinear branch, for every step `h` the loop applies — the clamped first step,
    every adaptive step and the final partial step — `gamma · h · (peak total power of the field entering that step)`
    is at most `phi_max`, and no step is negative.  (The defining property of the method "based on limiting the
    nonlinear phase rotation".) -/
theorem step_phase_bounded (wConv kappa fs alpha b2 b3 gamma phiMax L : ℝ) (fuel : ℕ) (A : Rows ℝ) (out : Out ℝ)
    (hA : Layout A) (hg : 0 < gamma) (hdisp : ¬ (b2 = 0 ∧ b3 = 0)) (hphi : 0 ≤ phiMax) (hL : 0 ≤ L)
    (hok : fiber wConv kappa fs alpha b2 b3 gamma phiMax L fuel A = .ok out) :
    ∀ q ∈ trace (step wConv fs (alpha / kappa) b2 b3 gamma) A out.steps,
      gamma * q.2 * peak q.1 ≤ phiMax ∧ 0 ≤ q.2 :=
  fiber_phase_bounded hg hphi hL hok

-- `terminates`' hypotheses `Layout A`, `0 < energy A` can be met; `terminates`, `terminates_linear` witness every `hok`

example : Layout ([[⟨1, 0⟩, ⟨0, 2⟩], [⟨0, 0⟩, ⟨1, 1⟩]] : Rows ℝ) := Or.inr ⟨_, _, rfl, rfl⟩
example : 0 < energy ([[⟨1, 0⟩, ⟨0, 2⟩]] : Rows ℝ) := by norm_num [energy, sumSq, Cx.normSq]

end OptiVerif.Props.C08
