/-
C03 — a noise-free link built from the library's blocks returns the transmitted bits.
Theorems about `Model/Link.lean` at ℝ.
-/
import OptiVerif.Lemmas.Link
import OptiVerif.Lemmas.Modulators
import OptiVerif.Props.C12

namespace OptiVerif.Props.C03
open OptiVerif.Link OptiVerif.Modulators

/-- the received waveform is slot-exact: every sample of slot k is the detected level of bit k -/
theorem received_slots (kPD lossdB erdB Vpi biasM vout bias : ℝ) (sps : ℕ) (bits : List Bool) :
    received kPD lossdB erdB Vpi biasM vout bias sps bits
      = (bits.map (fun b => rx kPD lossdB erdB Vpi biasM (lvl vout bias b))).flatMap (fun v => List.replicate sps v) := by
  simp only [received, nrz, List.map_flatMap, List.flatMap_map, List.map_replicate]

theorem received_length (kPD lossdB erdB Vpi biasM vout bias : ℝ) (sps : ℕ) (bits : List Bool) :
    (received kPD lossdB erdB Vpi biasM vout bias sps bits).length = bits.length * sps := by
  rw [received_slots, length_flatMap_block _ sps _ fun _ _ => List.length_replicate, List.length_map]

/-- sampling at ANY instant i < sps gives the detected level of every bit, one sample per slot -/
theorem sampler_received (kPD lossdB erdB Vpi biasM vout bias : ℝ) (sps i : ℕ) (hi : i < sps) (bits : List Bool) :
    sampler (received kPD lossdB erdB Vpi biasM vout bias sps bits) i sps
      = bits.map (fun b => rx kPD lossdB erdB Vpi biasM (lvl vout bias b)) := by
  rw [received_slots, sampler_slots _ _ _ hi]

/-- for ANY received sample sequence: if every sample is closer to the level of its bit than half the level gap, the
    mid-level decision returns the bits.  (The Bessel filter with BW ≥ 0.7·R and dispersion below 1 % of the squared slot
    keep the inter-symbol interference inside this margin — checked numerically on the real code for every case.) -/
theorem decision_margin (v0 v1 : ℝ) (ys : List ℝ) (bits : List Bool)
    (h : List.Forall₂ (fun y b => |y - (if b then v1 else v0)| < |v1 - v0| / 2) ys bits) :
    ys.map (fun y => decideBit v0 v1 y ((v0 + v1) / 2)) = bits := by
  induction h with
  | nil => rfl
  | cons hyb _ ih => simp only [List.map_cons, ih, decideBit_of_margin v0 v1 _ _ hyb]

/-- **the memoryless link returns the bits**: for every bit sequence (any length, any pattern), every sps ≥ 1, every
    sampling instant inside the slot, every CW amplitude / responsivity / load (kPD), every MZM loss, ER, Vπ, bias and
    every DAC amplitude and bias — provided only that the two detected levels differ — thresholding midway between the
    received levels returns exactly the transmitted bits -/
theorem memoryless_link (kPD lossdB erdB Vpi biasM vout bias : ℝ) (sps i : ℕ) (hi : i < sps) (bits : List Bool)
    (hlev : rx kPD lossdB erdB Vpi biasM (lvl vout bias false) ≠ rx kPD lossdB erdB Vpi biasM (lvl vout bias true)) :
    let v0 := rx kPD lossdB erdB Vpi biasM (lvl vout bias false)
    let v1 := rx kPD lossdB erdB Vpi biasM (lvl vout bias true)
    (sampler (received kPD lossdB erdB Vpi biasM vout bias sps bits) i sps).map
        (fun y => decideBit v0 v1 y ((v0 + v1) / 2)) = bits := by
  intro v0 v1
  -- `decision_margin` with every sample at distance 0 from its level
  rw [sampler_received _ _ _ _ _ _ _ _ _ hi]
  refine decision_margin v0 v1 _ bits (List.forall₂_map_left_iff.mpr (List.forall₂_same.mpr fun b _ => ?_))
  have hpos : 0 < |v1 - v0| / 2 := half_pos (abs_pos.mpr (sub_ne_zero.mpr (Ne.symm hlev)))
  cases b
  · show |v0 - v0| < _; rwa [sub_self, abs_zero]
  · show |v1 - v1| < _; rwa [sub_self, abs_zero]

/-- the DAC bias and the MZM bias are interchangeable: a drive `x·Vout + bias` into a modulator biased at `biasM` is
    detected exactly as the drive `x·Vout` into a modulator biased at `biasM + bias` (the push-pull arrangement
    `DAC(bias = −Vπ/2) → MZM(bias = +Vπ/2)` of the MZM docstring is the unbiased drive into an unbiased modulator) -/
theorem rx_bias_interchange (kPD lossdB erdB Vpi biasM vout bias : ℝ) (b : Bool) :
    rx kPD lossdB erdB Vpi biasM (lvl vout bias b)
      = rx kPD lossdB erdB Vpi (biasM + bias) (lvl vout ((0 : ℕ) : ℝ) b) := by
  rw [rx, rx, mzmHu_add_bias, lvl, lvl, Nat.cast_zero, add_zero]

theorem received_bias_interchange (kPD lossdB erdB Vpi biasM vout bias : ℝ) (sps : ℕ) (bits : List Bool) :
    received kPD lossdB erdB Vpi biasM vout bias sps bits
      = received kPD lossdB erdB Vpi (biasM + bias) vout ((0 : ℕ) : ℝ) sps bits := by
  rw [received_slots, received_slots]
  exact congrArg _ (List.map_congr_left fun b _ => rx_bias_interchange kPD lossdB erdB Vpi biasM vout bias b)

/-- the detected voltage is unchanged when the bias is raised by 2·Vπ (the field changes sign, the square law does not
    see it) -/
theorem rx_bias_period (kPD lossdB erdB Vpi biasM u : ℝ) (hV : Vpi ≠ 0) :
    rx kPD lossdB erdB Vpi (biasM + 2 * Vpi) u = rx kPD lossdB erdB Vpi biasM u := by
  -- the shift moved from the bias to the drive, then the steps of C06's `mzm_period_neg`: a shift by π, a sign, |·|²
  rw [rx, rx, mzmHu_add_bias, mzmHu_def, mzmHu_def, mzmG_shift Vpi biasM u hV, mzmH_add_pi, Cx.normSq_neg]

/-- a zero field in the second polarisation adds |0|² = 0 to the square law (the two-polarisation layout itself is not
    in `Model/Link.lean`) -/
theorem layouts_agree (r Rl : ℝ) (ax h : Cx ℝ) :
    r * ((ax * h).normSq + (Modulators.czero : Cx ℝ).normSq) * Rl = r * (ax * h).normSq * Rl := by
  simp [Modulators.czero, Cx.normSq, Gen.OptDev.lit]

/-- the detected level is kPD·|h|² with kPD = r·R_load·|a|² (square law of the modulated carrier) -/
theorem rx_is_square_law (r Rl lossdB erdB Vpi biasM u : ℝ) (a : Cx ℝ) :
    rx (r * Rl * a.normSq) lossdB erdB Vpi biasM u = r * (a * mzmHu lossdB erdB Vpi biasM u).normSq * Rl := by
  simp only [rx, Cx.normSq_mul]
  ring

/-- the margin is necessary in the following sense: a sample on the wrong side of the mid level is decoded wrongly
    (stated for the non-inverting arrangement `v0 < v1` only) -/
theorem decision_wrong_side (v0 v1 y : ℝ) (b : Bool) (h01 : v0 < v1)
    (hy : if b then y < (v0 + v1) / 2 else (v0 + v1) / 2 < y) :
    decideBit v0 v1 y ((v0 + v1) / 2) ≠ b := by
  cases b
  · simp only [Bool.false_eq_true, if_false] at hy
    rw [Ne, Bool.not_eq_false, decideBit_eq_true_iff]
    exact mul_pos (sub_pos.mpr hy) (sub_pos.mpr h01)
  · simp only [if_true] at hy
    rw [Ne, Bool.not_eq_true, ← Bool.not_eq_true, decideBit_eq_true_iff, not_lt]
    exact (mul_neg_of_neg_of_pos (sub_neg.mpr hy) (sub_pos.mpr h01)).le

theorem errors_self (t : List Bool) : errors t t = 0 := by
  induction t with
  | nil => rfl
  | cons a as ih => simp [errors, ih]

theorem errors_le (t r : List Bool) : errors t r ≤ min t.length r.length := by
  induction t generalizing r with
  | nil => simp [errors]
  | cons a as ih =>
    cases r with
    | nil => simp [errors]
    | cons b bs =>
      have := ih bs
      rw [errors, List.length_cons, List.length_cons, Nat.succ_min_succ]
      split <;> omega

/-- flipping exactly the positions marked in `e` gives exactly (number of marks) errors -/
theorem errors_flip (t e : List Bool) (hlen : t.length = e.length) :
    errors t (List.zipWith xor t e) = e.count true := by
  induction t generalizing e with
  | nil => cases e <;> simp_all [errors]
  | cons a as ih =>
    cases e with
    | nil => simp at hlen
    | cons x xs =>
      rw [List.zipWith_cons_cons, errors, ih xs (by simpa using hlen), List.count_cons, Nat.add_comm]
      cases a <;> cases x <;> rfl

/-- the counter reports 0 for a perfect reception, whatever the data -/
theorem counter_zero_of_link (kPD lossdB erdB Vpi biasM vout bias : ℝ) (sps i : ℕ) (hi : i < sps) (bits : List Bool)
    (hlev : rx kPD lossdB erdB Vpi biasM (lvl vout bias false) ≠ rx kPD lossdB erdB Vpi biasM (lvl vout bias true)) :
    errors bits ((sampler (received kPD lossdB erdB Vpi biasM vout bias sps bits) i sps).map
        (fun y => decideBit (rx kPD lossdB erdB Vpi biasM (lvl vout bias false))
          (rx kPD lossdB erdB Vpi biasM (lvl vout bias true)) y
          ((rx kPD lossdB erdB Vpi biasM (lvl vout bias false) + rx kPD lossdB erdB Vpi biasM (lvl vout bias true)) / 2))) = 0 := by
  rw [memoryless_link kPD lossdB erdB Vpi biasM vout bias sps i hi bits hlev, errors_self]

/-- the slot waveform used by the link theorems is exactly the (exact, rational) DAC model of C05 — `np.kron` expansion then
    `x*Vout + bias` — read in ℝ: the chain proved above really starts at the modelled DAC -/
theorem nrz_is_dac (vout bias : ℚ) (sps : ℕ) (bits : List Bool) :
    (Dac.scale (Dac.kron (bits.map Bool.toNat) sps) (some vout) (some bias)).map (fun q : ℚ => (q : ℝ))
      = nrz (vout : ℝ) (bias : ℝ) sps bits := by
  simp only [Dac.scale, Dac.kron, nrz, List.map_flatMap, List.flatMap_map, List.map_replicate]
  congr 1
  funext b
  cases b <;> simp [Dac.lvl, lvl]

/-- **PPM soft decision over the memoryless link**: for every valid codeword `c` of any power-of-two order (in
    particular every `PPM_ENCODER` output, C12 `encode_valid`), the waveform received through DAC → MZM → PD with the ON
    level above the OFF level is decoded by SDD back to `c` exactly — for every sps ≥ 1 and every device parameter set.
    With C12's `decode_encode` the transmitted bits follow (truncated to whole symbols). -/
theorem ppm_soft_link (kPD lossdB erdB Vpi biasM vout bias : ℝ) (M sps : ℕ) (hM : 0 < M)
    (hp : Ppm.pow2Test (M : Int) = true) (hs : 0 < sps) (c : List Bool) (hv : Ppm.ValidCW M c)
    (hlev : rx kPD lossdB erdB Vpi biasM (lvl vout bias false) < rx kPD lossdB erdB Vpi biasM (lvl vout bias true)) :
    Ppm.sdd (M : Int) sps (received kPD lossdB erdB Vpi biasM vout bias sps c) = .ok c := by
  have h := OptiVerif.Props.C12.sdd_id_on_waveforms (R := ℝ) M sps hM hp hs c hv
    (List.replicate sps (rx kPD lossdB erdB Vpi biasM (lvl vout bias false)))
    (List.replicate sps (rx kPD lossdB erdB Vpi biasM (lvl vout bias true)))
    (by simp) (by simp)
    (by -- `Ppm.sumL` is `List.sum` written out
        show (List.replicate sps _).sum < (List.replicate sps _).sum
        rw [List.sum_replicate, List.sum_replicate, nsmul_eq_mul, nsmul_eq_mul]
        exact mul_lt_mul_of_pos_left hlev (by exact_mod_cast hs))
  rw [← h, received_slots, List.flatMap_def, List.map_map]
  exact congrArg _ (congrArg _ (List.map_congr_left fun b _ => by cases b <;> simp))

example : decideBit (0 : ℝ) 1 0.9 ((0 + 1) / 2) = true := by
  apply decideBit_of_margin 0 1 0.9 true; norm_num [abs_lt]
example : errors [true, false, true, true] (List.zipWith xor [true, false, true, true] [false, true, true, false]) = 2 := by
  decide

end OptiVerif.Props.C03
